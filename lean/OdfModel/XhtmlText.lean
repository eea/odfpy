/-
  OdfModel.XhtmlText — the XHTML transducer on whole trees (property C18).

  `Flow` is running text of the supported vocabulary; `walk_flow`: it is converted without error, with the tags balanced and
  depth and note bookkeeping restored (`Eff`).  `Txt` adds that no handler discards pending visible text ("clean" = all
  visible text so far is written); `walk_txt`: the visible text (`visMain`, then `visNotes`) is in the output, in order.
  Both are inductions over one lemma per kind of node (`walk_transparent` … `bracket_eff`, `leaf_eff`, `note_eff`) that says
  what `walk` does there, given the walk of the children.  `Head`: the part in front of the body only meets handlers that
  write nothing (`walk_head_of` / `walkList_head_of`, by components of the context; `walk_head`).
-/
import OdfModel.XhtmlLemmas
namespace OdfModel.Xhtml
open OdfModel OdfModel.Xml OdfModel.Generated.Xhtml

/-! ### supported running text ("flow") and the induction over it -/

mutual
/-- `Flow b n`: node `n` is running text of the supported vocabulary; `b` = inside a note body (no note allowed there) -/
inductive Flow : Bool → Node → Prop
  | text (b s) : Flow b (.text s)
  | transparent (b q a kids) : dispatch q = (none, none) → FlowL b kids → Flow b (.elem q a kids)
  | ignored (b q a kids he) : dispatch q = (some .s_ignorexml, he) → Flow b (.elem q a kids)
  | bracket (b q a kids hs he) : dispatch q = (some hs, some he) → BracketH hs he a → FlowL b kids → Flow b (.elem q a kids)
  | leaf (b q a kids hs) : dispatch q = (some hs, none) → LeafH hs a → FlowL b kids → Flow b (.elem q a kids)
  | note (q a qc ac) (cite : List Str) (qb ab kids) : dispatch q = (some .s_text_note, none) →
      dispatch qc = (none, some .e_text_note_citation) →
      dispatch qb = (some .s_text_note_body, some .e_text_note_body) → FlowL true kids →
      Flow false (.elem q a [.elem qc ac (cite.map Node.text), .elem qb ab kids])
inductive FlowL : Bool → List Node → Prop
  | nil (b) : FlowL b []
  | cons (b n ns) : Flow b n → FlowL b ns → FlowL b (n :: ns)
end

/-- what holds of the state wherever running text is processed, `b` = inside a note body: `self.lines` is set aside and
    `self.notebody` is a list exactly there, and `self.currentnote` is the number of notes met so far -/
def Inv (b : Bool) (st : St) : Prop := st.saved.isSome = b ∧ st.nbOpen = b ∧ st.cur = st.notes.length

theorem Same.inv {b : Bool} {st st1 : St} (hs : Same st st1) (hi : Inv b st) : Inv b st1 :=
  ⟨by rw [hs.saved]; exact hi.1, by rw [hs.nbOpen]; exact hi.2.1, by rw [hs.cur, hs.notes]; exact hi.2.2⟩

/-- effect of a piece of running text on the state -/
structure Eff (b : Bool) (st st' : St) : Prop where
  depth : st'.depth = st.depth
  saved : st'.saved = st.saved
  nbOpen : st'.nbOpen = st.nbOpen
  listtypes : st'.listtypes = st.listtypes
  /-- the third conjunct of `Inv` at `st'` (a note moves `cur` and `notes` together, so neither is kept) -/
  cur : st'.cur = st'.notes.length
  /-- notes are only appended, each with a balanced body; none inside a note body -/
  notes : ∃ N, st'.notes = st.notes ++ N ∧ NotesOK N ∧ (b = true → N = [])
  /-- what was appended to `out` is balanced: the new output leaves every stack of open tags as the old one did -/
  stack : ∀ s S, bal st.out s = some S → bal st'.out s = some S

theorem Eff.inv {b : Bool} {st st' : St} (h : Inv b st) (e : Eff b st st') : Inv b st' :=
  ⟨by rw [e.saved]; exact h.1, by rw [e.nbOpen]; exact h.2.1, e.cur⟩

theorem Eff.trans {b : Bool} {s1 s2 s3 : St} (e1 : Eff b s1 s2) (e2 : Eff b s2 s3) : Eff b s1 s3 := by
  obtain ⟨N1, h1, ok1, n1⟩ := e1.notes
  obtain ⟨N2, h2, ok2, n2⟩ := e2.notes
  exact {
    depth := e2.depth.trans e1.depth
    saved := e2.saved.trans e1.saved
    nbOpen := e2.nbOpen.trans e1.nbOpen
    listtypes := e2.listtypes.trans e1.listtypes
    cur := e2.cur
    notes := ⟨N1 ++ N2, by rw [h2, h1, List.append_assoc], fun x hx => (List.mem_append.mp hx).elim (ok1 x) (ok2 x),
      fun hb => by rw [n1 hb, n2 hb]; rfl⟩
    stack := fun s S h => e2.stack s S (e1.stack s S h) }

theorem Eff.of_same {b : Bool} {st st1 : St} (hi : Inv b st) (hd : st1.depth = st.depth) (hs : Same st st1)
    (hb : ∀ s S, bal st.out s = some S → bal st1.out s = some S) : Eff b st st1 :=
  { depth := hd, saved := hs.saved, nbOpen := hs.nbOpen, listtypes := hs.listtypes
    cur := (hs.inv hi).2.2
    notes := ⟨[], by simp [hs.notes], (fun x hx => nomatch hx), fun _ => rfl⟩
    stack := hb }

theorem Eff.refl {b : Bool} {st : St} (h : Inv b st) : Eff b st st := Eff.of_same h rfl (Same.refl st) fun _ _ h => h

theorem Eff.of_data {b : Bool} {st : St} (hi : Inv b st) (d : Str) : Eff b st { st with data := d } :=
  Eff.of_same hi rfl ⟨rfl, rfl, rfl, rfl, rfl⟩ fun _ _ h => h

theorem walk_text (cfg : Cfg) (ctx : Ctx) (st : St) (s : Str) : ∃ d, walk cfg ctx st (.text s) = .ok { st with data := d } := by
  rw [walk]; split
  · exact ⟨_, rfl⟩
  · exact ⟨st.data, rfl⟩

theorem walk_elem {cfg : Cfg} {ctx : Ctx} {st : St} {q : Str} {a : Attrs} {kids : List Node} (hpe : ctx.pe = true) :
    walk cfg ctx st (.elem q a kids) =
      match startEl cfg ctx q a st with
      | .error e => .error e
      | .ok (st1, pe1, pc1) =>
        match walkList cfg { stack := (q, a) :: ctx.stack, pe := pe1, pc := pc1 } st1 kids with
        | .error e => .error e
        | .ok st2 => if pe1 then endEl cfg ctx q a pe1 pc1 st2 else .ok st2 := by
  rw [walk]; simp only [hpe, if_true]; rfl

theorem walkList_texts (cfg : Cfg) (ctx : Ctx) (st : St) (ss : List Str) :
    ∃ d, walkList cfg ctx st (ss.map Node.text) = .ok { st with data := d } := by
  induction ss generalizing st with
  | nil => exact ⟨st.data, rfl⟩
  | cons s ss ih =>
    obtain ⟨d, h⟩ := walk_text cfg ctx st s
    simp only [List.map_cons, walkList, h]
    exact ih _

theorem walkList_dead (cfg : Cfg) (ctx : Ctx) (st : St) (l : List Node) (hpe : ctx.pe = false) :
    walkList cfg ctx st l = .ok st := by
  induction l with
  | nil => rfl
  | cons n ns ih => cases n <;> simp [walkList, walk, hpe, ih]

theorem walkList_append (cfg : Cfg) (ctx : Ctx) (st : St) (l1 l2 : List Node) :
    walkList cfg ctx st (l1 ++ l2) =
      match walkList cfg ctx st l1 with
      | .error e => .error e
      | .ok st1 => walkList cfg ctx st1 l2 := by
  induction l1 generalizing st with
  | nil => rfl
  | cons n ns ih =>
    simp only [List.cons_append, walkList]
    cases walk cfg ctx st n with
    | error e => rfl
    | ok st1 => exact ih st1

/-! ### what `walk` does at an element, by the shape of its dispatch entry -/

theorem walk_transparent {cfg : Cfg} {ctx : Ctx} {st : St} {q : Str} {a : Attrs} {kids : List Node}
    (hd : dispatch q = (none, none)) (hpe : ctx.pe = true) :
    walk cfg ctx st (.elem q a kids) = walkList cfg ⟨(q, a) :: ctx.stack, ctx.pe, ctx.pc⟩ st kids := by
  rw [walk_elem hpe]
  simp only [startEl, endEl, hd, hpe]
  cases walkList cfg ⟨(q, a) :: ctx.stack, true, ctx.pc⟩ st kids <;> rfl

theorem walk_ignored {cfg : Cfg} {ctx : Ctx} {st : St} {q : Str} {a : Attrs} {kids : List Node} {he : Option HName}
    (hd : dispatch q = (some .s_ignorexml, he)) (hpe : ctx.pe = true) : walk cfg ctx st (.elem q a kids) = .ok st := by
  rw [walk_elem hpe]
  unfold startEl runH; simp [hd, walkList_dead]

theorem walk_bracket {cfg : Cfg} {ctx : Ctx} {st : St} {q : Str} {a : Attrs} {kids : List Node} {hs he : HName}
    {st1 st2 st3 : St} {pe3 pc3 : Bool} (hd : dispatch q = (some hs, some he)) (hpe : ctx.pe = true)
    (hr1 : runH cfg ctx hs q a ctx.pe ctx.pc st = .ok (st1, ctx.pe, ctx.pc))
    (h2 : walkList cfg ⟨(q, a) :: ctx.stack, ctx.pe, ctx.pc⟩ st1 kids = .ok st2)
    (hr3 : runH cfg ctx he q a ctx.pe ctx.pc st2 = .ok (st3, pe3, pc3)) :
    walk cfg ctx st (.elem q a kids) = .ok st3 := by
  rw [walk_elem hpe]
  simp only [hpe] at hr1 h2 hr3
  simp [startEl, endEl, hd, hpe, hr1, h2, hr3, Except.map]

/-- `Does` without the run, the depth and `Same`: what the cleanliness judgement below needs to know of a handler run
    from `st` to `st1` -/
def TextEffBetween (k : Option TKind) (st st1 : St) : Prop :=
  ∃ w, st1.out = st.out ++ w ∧ st1.notes = st.notes ∧ TextEff k st.data w st1.data

/-- a bracketing element: the start handler succeeds and keeps the invariant; once its children are walked with an
    effect `Eff`, the end handler closes the tag the start handler opened, so the whole element has an effect `Eff` -/
theorem bracket_eff (cfg : Cfg) (ctx : Ctx) (st : St) (q : Str) (a : Attrs) (kids : List Node) {hs he : HName} {b : Bool}
    (hd : dispatch q = (some hs, some he)) (hb : BracketH hs he a) (hpe : ctx.pe = true) (hi : Inv b st) :
    ∃ st1, Inv b st1 ∧ TextEffBetween (hkind hs) st st1 ∧
      ∀ st2, walkList cfg ⟨(q, a) :: ctx.stack, ctx.pe, ctx.pc⟩ st1 kids = .ok st2 → Eff b st1 st2 →
        ∃ st3, walk cfg ctx st (.elem q a kids) = .ok st3 ∧ Eff b st st3 ∧ TextEffBetween (hkind he) st2 st3 := by
  obtain ⟨t, ⟨w1, ⟨st1, hr1, ho1, ht1, hd1, hs1⟩, hb1⟩, hc⟩ := bracket_spec hb cfg ctx q ctx.pe ctx.pc st
  refine ⟨st1, hs1.inv hi, ⟨w1, ho1, hs1.notes, ht1⟩, fun st2 h2 e2 => ?_⟩
  obtain ⟨w3, ⟨st3, hr3, ho3, ht3, hd3, hs3⟩, hb3⟩ :=
    hc st2 (by rw [e2.listtypes, hs1.listtypes]) (by rw [e2.depth, hd1]; omega)
  obtain ⟨N, hN, okN, nN⟩ := e2.notes
  refine ⟨st3, walk_bracket hd hpe hr1 h2 hr3, ?_, ⟨w3, ho3, hs3.notes, ht3⟩⟩
  exact {
    depth := by rw [hd3, e2.depth, hd1]; rfl
    saved := by rw [hs3.saved, e2.saved, hs1.saved]
    nbOpen := by rw [hs3.nbOpen, e2.nbOpen, hs1.nbOpen]
    listtypes := by rw [hs3.listtypes, e2.listtypes, hs1.listtypes]
    cur := by rw [hs3.cur, hs3.notes]; exact e2.cur
    notes := ⟨N, by rw [hs3.notes, hN, hs1.notes], okN, nN⟩
    -- the start handler puts `t` on the stack, the children leave it there, the end handler takes it off
    stack := fun s S h => by
      rw [ho3, bal_append, e2.stack s (t :: S) (by rw [ho1, bal_append, h]; exact hb1 S)]
      exact hb3 S }

theorem leaf_eff (cfg : Cfg) (ctx : Ctx) (st : St) (q : Str) (a : Attrs) (kids : List Node) {hs : HName} {b : Bool}
    (hd : dispatch q = (some hs, none)) (hl : LeafH hs a) (hpe : ctx.pe = true) (hst : ctx.stack ≠ []) (hi : Inv b st) :
    ∃ st1, Eff b st st1 ∧ TextEffBetween (hkind hs) st st1 ∧
      walk cfg ctx st (.elem q a kids) = walkList cfg ⟨(q, a) :: ctx.stack, ctx.pe, ctx.pc⟩ st1 kids := by
  obtain ⟨w, ⟨st1, hr1, ho1, ht, hd1, hs1⟩, hb⟩ := leaf_spec hl cfg ctx hst q ctx.pe ctx.pc st
  refine ⟨st1, Eff.of_same hi hd1 hs1 (fun s S h => by rw [ho1, bal_append, h]; exact hb S), ⟨w, ho1, hs1.notes, ht⟩, ?_⟩
  rw [walk_elem hpe]
  simp only [hpe] at hr1
  simp only [startEl, endEl, hd, hpe, hr1]
  cases walkList cfg ⟨(q, a) :: ctx.stack, true, ctx.pc⟩ st1 kids <;> rfl

/-- what a note leaves in the main text: the pending data, then the link to the foot note -/
def noteRef (n : Nat) : List Tok :=
  [.otag nA [(aHref, sHashFootnote ++ natToStr n)] false, .otag nSup [] false, .raw (.num n), .ctag nSup true, .ctag nA true]

/-- a note outside other notes: the label only reaches the pending data and is replaced by the note number; the body
    is collected in a buffer of its own (state `st3` at its start) and stored as the last note -/
theorem note_eff (cfg : Cfg) (ctx : Ctx) (st : St) (q : Str) (a : Attrs) (qc : Str) (ac : Attrs) (cite : List Str) (qb : Str)
    (ab : Attrs) (kids : List Node) (hd : dispatch q = (some .s_text_note, none))
    (hdc : dispatch qc = (none, some .e_text_note_citation))
    (hdb : dispatch qb = (some .s_text_note_body, some .e_text_note_body)) (hpe : ctx.pe = true) (hi : Inv false st) :
    ∃ st3, Inv true st3 ∧
      ∀ st4, walkList cfg ⟨(qb, ab) :: (q, a) :: ctx.stack, true, ctx.pc⟩ st3 kids = .ok st4 → Eff true st3 st4 →
        ∃ st5, walk cfg ctx st (.elem q a [.elem qc ac (cite.map Node.text), .elem qb ab kids]) = .ok st5 ∧ Eff false st st5 ∧
          st5.out = st.out ++ dataToks st.data ++ noteRef (st.cur + 1) ∧ st5.notes = st.notes ++ [some st4.out] := by
  obtain ⟨hsv, hnb, hcur⟩ := hi
  have hsv : st.saved = none := by simpa using hsv
  let st1 : St := { purgedata (writedata st) with cur := st.cur + 1, notes := st.notes ++ [none], nbOpen := true }
  have hr1 : runH cfg ctx .s_text_note q a true ctx.pc st = .ok (st1, true, ctx.pc) := by unfold runH; simp [hsv, st1]
  -- the citation: its text only reaches self.data; e_text_note_citation writes <a><sup>n</sup></a>
  obtain ⟨d, hcit⟩ := walkList_texts cfg ⟨(qc, ac) :: (q, a) :: ctx.stack, true, ctx.pc⟩ st1 cite
  let st2 : St := closePure nA true (closePure nSup true (emit (.raw (.num st1.cur))
    (opentag nSup [] false (opentag nA [(aHref, sHashFootnote ++ natToStr st1.cur)] false { st1 with data := d }))))
  have hr2 : runH cfg ⟨(q, a) :: ctx.stack, true, ctx.pc⟩ .e_text_note_citation qc ac true ctx.pc { st1 with data := d } =
      .ok (st2, true, ctx.pc) := citation_spec (by simp [st1]) (by simp [st1, hcur])
  -- the body: the buffer is swapped, the children are running text inside a note
  let st3 : St := { st2 with saved := some st2.out, out := [] }
  have hr3 : runH cfg ⟨(q, a) :: ctx.stack, true, ctx.pc⟩ .s_text_note_body qb ab true ctx.pc st2 = .ok (st3, true, ctx.pc) := by
    unfold runH; simp [st3, st2, st1, hsv]
  refine ⟨st3, ⟨rfl, rfl, by simp [st3, st2, st1, hcur]⟩, ?_⟩
  intro st4 h4 e4
  obtain ⟨N4, hN4, _, nN4⟩ := e4.notes
  have hN4' : st4.notes = st.notes ++ [none] := by rw [hN4, nN4 rfl]; simp [st3, st2, st1]
  have hcur4 : st4.cur = st.notes.length + 1 := by rw [e4.cur, hN4']; simp
  have hsv4 : st4.saved = some st2.out := by rw [e4.saved]
  let st5 : St := { st4 with out := st2.out, saved := none, notes := st.notes ++ [some st4.out], nbOpen := false }
  have hr5 : runH cfg ⟨(q, a) :: ctx.stack, true, ctx.pc⟩ .e_text_note_body qb ab true ctx.pc st4 = .ok (st5, true, ctx.pc) := by
    unfold runH; simp [hsv4, hcur4, hN4', st5]
  have hout : st5.out = st.out ++ dataToks st.data ++ noteRef (st.cur + 1) := by simp [st5, st2, st1, noteRef]
  refine ⟨st5, ?_, ?_, hout, rfl⟩
  · simp only [walk_elem, walkList, startEl, endEl, hd, hdc, hdb, hpe, hr1, hcit, hr2, hr3, h4, hr5, Except.map, if_true]
  · exact {
      depth := by simp [st5, e4.depth, st3, st2, st1]
      saved := by simp [st5, hsv]
      nbOpen := by simp [st5, hnb]
      listtypes := by simp [st5, e4.listtypes, st3, st2, st1]
      cur := by simp [st5, hcur4]
      -- the body was collected from the empty buffer of `st3`, so `Eff.stack` of the children says it is balanced
      notes := ⟨[some st4.out], rfl, fun x hx => ⟨st4.out, by simpa using hx, fun s => e4.stack s s rfl⟩, fun h => nomatch h⟩
      stack := fun s S h => by rw [hout]; simp [noteRef, bal_append, h, bal, br] }

mutual
/-- running text of the supported vocabulary is converted without error; it leaves the open tags, the tag depth and the
    buffer switch as it found them, and every note it collects has a balanced body -/
theorem walk_flow (cfg : Cfg) (n : Node) (b : Bool) (ctx : Ctx) (st : St) (hf : Flow b n) (hpe : ctx.pe = true)
    (hst : ctx.stack ≠ []) (hi : Inv b st) : ∃ st', walk cfg ctx st n = .ok st' ∧ Eff b st st' := by
  match hf with
  | .text _ s =>
    obtain ⟨d, h⟩ := walk_text cfg ctx st s
    exact ⟨_, h, Eff.of_data hi d⟩
  | .transparent _ q a kids hd hk =>
    rw [walk_transparent hd hpe]
    exact walkList_flow cfg kids b ⟨(q, a) :: ctx.stack, ctx.pe, ctx.pc⟩ st hk hpe (by simp) hi
  | .ignored _ q a kids he hd => exact ⟨st, walk_ignored hd hpe, Eff.refl hi⟩
  | .bracket _ q a kids hs he hd hb hk =>
    obtain ⟨st1, hi1, _, hrest⟩ := bracket_eff cfg ctx st q a kids hd hb hpe hi
    obtain ⟨st2, h2, e2⟩ := walkList_flow cfg kids b ⟨(q, a) :: ctx.stack, ctx.pe, ctx.pc⟩ st1 hk hpe (by simp) hi1
    obtain ⟨st3, h3, e3, _⟩ := hrest st2 h2 e2
    exact ⟨st3, h3, e3⟩
  | .leaf _ q a kids hs hd hl hk =>
    obtain ⟨st1, e1, _, hw⟩ := leaf_eff cfg ctx st q a kids hd hl hpe hst hi
    obtain ⟨st2, h2, e2⟩ := walkList_flow cfg kids b ⟨(q, a) :: ctx.stack, ctx.pe, ctx.pc⟩ st1 hk hpe (by simp) (e1.inv hi)
    exact ⟨st2, hw.trans h2, e1.trans e2⟩
  | .note q a qc ac cite qb ab kids hd hdc hdb hk =>
    obtain ⟨st3, hi3, hrest⟩ := note_eff cfg ctx st q a qc ac cite qb ab kids hd hdc hdb hpe hi
    obtain ⟨st4, h4, e4⟩ := walkList_flow cfg kids true ⟨(qb, ab) :: (q, a) :: ctx.stack, true, ctx.pc⟩ st3 hk rfl (by simp) hi3
    obtain ⟨st5, h5, e5, _⟩ := hrest st4 h4 e4
    exact ⟨st5, h5, e5⟩
termination_by structural hf

theorem walkList_flow (cfg : Cfg) (l : List Node) (b : Bool) (ctx : Ctx) (st : St) (hf : FlowL b l) (hpe : ctx.pe = true)
    (hst : ctx.stack ≠ []) (hi : Inv b st) : ∃ st', walkList cfg ctx st l = .ok st' ∧ Eff b st st' := by
  match hf with
  | .nil _ => exact ⟨st, rfl, Eff.refl hi⟩
  | .cons _ n ns hn hns =>
    obtain ⟨st1, h1, e1⟩ := walk_flow cfg n b ctx st hn hpe hst hi
    obtain ⟨st2, h2, e2⟩ := walkList_flow cfg ns b ctx st1 hns hpe hst (e1.inv hi)
    exact ⟨st2, by simp [walkList, h1, h2], e1.trans e2⟩
termination_by structural hf
end

/-! ### the part of the document before the body (meta data, styles) -/

mutual
/-- `Head stack n`: node `n`, met below the elements `stack`, only runs handlers that write nothing -/
inductive Head : List (Str × Attrs) → Node → Prop
  | text (stack s) : Head stack (.text s)
  | elem (stack q a kids) : (∀ h, (dispatch q).1 = some h → quietOK h a stack) →
      (∀ h, (dispatch q).2 = some h → quietOK h a stack) → HeadL ((q, a) :: stack) kids → Head stack (.elem q a kids)
inductive HeadL : List (Str × Attrs) → List Node → Prop
  | nil (stack) : HeadL stack []
  | cons (stack n ns) : Head stack n → HeadL stack ns → HeadL stack (n :: ns)
end

mutual
/-- the context by its components: along the walk the stack grows and the handlers switch `pe` and `pc` -/
theorem walk_head_of (cfg : Cfg) (n : Node) (stack : List (Str × Attrs)) (pe pc : Bool) (st : St) (hh : Head stack n) :
    ∃ st', walk cfg ⟨stack, pe, pc⟩ st n = .ok st' ∧ QuietEff st st' := by
  match hh with
  | .text _ s =>
    obtain ⟨d, h⟩ := walk_text cfg ⟨stack, pe, pc⟩ st s
    exact ⟨_, h, ⟨rfl, rfl, rfl, rfl, rfl, rfl⟩⟩
  | .elem _ q a kids hs he hk =>
    cases pe with
    | false => exact ⟨st, by simp [walk], QuietEff.refl st⟩
    | true =>
      rw [walk_elem rfl]
      obtain ⟨st1, pe1, pc1, hr1, q1⟩ : ∃ st1 pe1 pc1, startEl cfg ⟨stack, true, pc⟩ q a st = .ok (st1, pe1, pc1) ∧ QuietEff st st1 := by
        unfold startEl
        cases hd : (dispatch q).1 with
        | none => exact ⟨st, _, _, rfl, QuietEff.refl st⟩
        | some h => exact quiet_spec cfg _ h q a true pc st (hs h hd)
      obtain ⟨st2, h2, q2⟩ := walkList_head_of cfg kids ((q, a) :: stack) pe1 pc1 st1 hk
      simp only [hr1, h2]
      cases pe1 with
      | false => exact ⟨st2, rfl, q1.trans q2⟩
      | true =>
        unfold endEl
        cases hd : (dispatch q).2 with
        | none => exact ⟨st2, rfl, q1.trans q2⟩
        | some h =>
          obtain ⟨st3, pe3, pc3, hr3, q3⟩ := quiet_spec cfg ⟨stack, true, pc⟩ h q a true pc1 st2 (he h hd)
          exact ⟨st3, by simp [hr3, Except.map], (q1.trans q2).trans q3⟩
termination_by structural hh

theorem walkList_head_of (cfg : Cfg) (l : List Node) (stack : List (Str × Attrs)) (pe pc : Bool) (st : St) (hh : HeadL stack l) :
    ∃ st', walkList cfg ⟨stack, pe, pc⟩ st l = .ok st' ∧ QuietEff st st' := by
  match hh with
  | .nil _ => exact ⟨st, rfl, QuietEff.refl st⟩
  | .cons _ n ns hn hns =>
    obtain ⟨st1, h1, q1⟩ := walk_head_of cfg n stack pe pc st hn
    obtain ⟨st2, h2, q2⟩ := walkList_head_of cfg ns stack pe pc st1 hns
    exact ⟨st2, by simp [walkList, h1, h2], q1.trans q2⟩
termination_by structural hh
end

theorem walk_head (cfg : Cfg) (n : Node) (ctx : Ctx) (st : St) (hh : Head ctx.stack n) :
    ∃ st', walk cfg ctx st n = .ok st' ∧ QuietEff st st' := walk_head_of cfg n ctx.stack ctx.pe ctx.pc st hh

/-! ### the visible text -/

def isNoteQ (q : Str) : Bool := (dispatch q).1 == some .s_text_note
def isIgnQ (q : Str) : Bool := (dispatch q).1 == some .s_ignorexml

mutual
/-- visible text of running text, in document order; note bodies (moved to the end), note labels (replaced by numbers) and
    the content of ignored elements are not part of it -/
def visMain : Node → Str
  | .text s => s
  | .elem q _ kids => if isNoteQ q || isIgnQ q then [] else visMainL kids
def visMainL : List Node → Str
  | [] => []
  | n :: ns => visMain n ++ visMainL ns
end

mutual
/-- text of the note bodies, in document order -/
def visNotes : Node → Str
  | .text _ => []
  | .elem q _ kids =>
    if isIgnQ q then []
    else if isNoteQ q then
      match kids with
      | [_, .elem _ _ bk] => visMainL bk
      | _ => []
    else visNotesL kids
def visNotesL : List Node → Str
  | [] => []
  | n :: ns => visNotes n ++ visNotesL ns
end

/-! ### the cleanliness judgement and the induction -/

/-- how a handler of kind `k` changes "clean" (all visible text so far is written): purge needs a clean start -/
def step : TKind → Bool → Bool → Prop
  | .keep, c, c' => c' = c
  | .flush, _, c' => c' = true
  | .purge, c, c' => c = true ∧ c' = true

/-- the visible text so far `V` is in the written text (clean) / in the written text followed by the pending data -/
def Pre (c : Bool) (V : Str) (st : St) : Prop :=
  if c = true then V.Sublist (textOf st.out) else V.Sublist (textOf st.out ++ st.data)

@[simp] theorem pre_clean (V : Str) (st : St) : Pre true V st ↔ V.Sublist (textOf st.out) := by simp [Pre]

@[simp] theorem pre_dirty (V : Str) (st : St) : Pre false V st ↔ V.Sublist (textOf st.out ++ st.data) := by simp [Pre]

theorem Pre.dirty {c : Bool} {V : Str} {st : St} (h : Pre c V st) : V.Sublist (textOf st.out ++ st.data) := by
  cases c with
  | false => simpa using h
  | true => exact ((pre_clean _ _).1 h).trans (List.sublist_append_left _ _)

mutual
/-- `Txt b c c' n`: `Flow b n`, and no handler purges the pending data while visible text is pending, when the data is
    clean (`c`) on entry; it is clean (`c'`) on exit.  What it excludes is character data directly in an element-only
    container (list item, cell, text box, …), which the ODF content model rules out (`Props.C18.Block`). -/
inductive Txt : Bool → Bool → Bool → Node → Prop
  | text (b c s) : Txt b c false (.text s)
  | transparent (b c c' q a kids) : dispatch q = (none, none) → TxtL b c c' kids → Txt b c c' (.elem q a kids)
  | ignored (b c q a kids he) : dispatch q = (some .s_ignorexml, he) → Txt b c c (.elem q a kids)
  | bracket (b c c1 c2 c' q a kids hs he ks ke) : dispatch q = (some hs, some he) → BracketH hs he a →
      hkind hs = some ks → hkind he = some ke → step ks c c1 → TxtL b c1 c2 kids → step ke c2 c' →
      Txt b c c' (.elem q a kids)
  | leaf (b c c1 c' q a kids hs k) : dispatch q = (some hs, none) → LeafH hs a → hkind hs = some k → step k c c1 →
      TxtL b c1 c' kids → Txt b c c' (.elem q a kids)
  | note (c q a qc ac) (cite : List Str) (qb ab kids) : dispatch q = (some .s_text_note, none) →
      dispatch qc = (none, some .e_text_note_citation) →
      dispatch qb = (some .s_text_note_body, some .e_text_note_body) → TxtL true true true kids →
      Txt false c true (.elem q a [.elem qc ac (cite.map Node.text), .elem qb ab kids])
inductive TxtL : Bool → Bool → Bool → List Node → Prop
  | nil (b c) : TxtL b c c []
  | cons (b c c1 c2 n ns) : Txt b c c1 n → TxtL b c1 c2 ns → TxtL b c c2 (n :: ns)
end

mutual
theorem Txt.flow {b c c' : Bool} {n : Node} (h : Txt b c c' n) : Flow b n := by
  match h with
  | .text _ _ _ => exact .text _ _
  | .transparent _ _ _ q a kids hd hk => exact .transparent _ q a kids hd hk.flow
  | .ignored _ _ q a kids he hd => exact .ignored _ q a kids he hd
  | .bracket _ _ c1 c2 _ q a kids hs he ks ke hd hb _ _ _ hk _ => exact .bracket _ q a kids hs he hd hb hk.flow
  | .leaf _ _ c1 _ q a kids hs k hd hl _ _ hk => exact .leaf _ q a kids hs hd hl hk.flow
  | .note _ q a qc ac cite qb ab kids hd hdc hdb hk => exact .note q a qc ac cite qb ab kids hd hdc hdb hk.flow
termination_by structural h
theorem TxtL.flow {b c c' : Bool} {l : List Node} (h : TxtL b c c' l) : FlowL b l := by
  match h with
  | .nil _ _ => exact .nil _
  | .cons _ _ c1 _ n ns hn hns => exact .cons _ n ns hn.flow hns.flow
termination_by structural h
end

/-- where the visible text of a piece of running text (`vm` in the main flow, `vn` in note bodies) has gone -/
structure TxtFacts (c c' : Bool) (vm vn : Str) (st st' : St) : Prop where
  main : ∀ V, Pre c V st → Pre c' (V ++ vm) st'
  notes : ∀ W : Str, W.Sublist (notesText st.notes) → (W ++ vn).Sublist (notesText st'.notes)

theorem TxtFacts.refl (c : Bool) (st : St) : TxtFacts c c [] [] st st :=
  ⟨fun V h => by simpa using h, fun W h => by simpa using h⟩

theorem TxtFacts.trans {c c1 c2 : Bool} {vm1 vm2 vn1 vn2 : Str} {s1 s2 s3 : St} (h1 : TxtFacts c c1 vm1 vn1 s1 s2)
    (h2 : TxtFacts c1 c2 vm2 vn2 s2 s3) : TxtFacts c c2 (vm1 ++ vm2) (vn1 ++ vn2) s1 s3 :=
  ⟨fun V h => by rw [← List.append_assoc]; exact h2.main _ (h1.main V h),
   fun W h => by rw [← List.append_assoc]; exact h2.notes _ (h1.notes W h)⟩

theorem TxtFacts.clean {vm vn : Str} {st st' : St} (h : TxtFacts true true vm vn st st') : vm.Sublist (textOf st'.out) := by
  simpa using h.main [] (by simp)

/-- what is written stays written; `flush` writes the pending data as well, `purge` finds nothing visible pending -/
theorem TxtFacts.of_handler {k : TKind} {st st1 : St} {c c1 : Bool} (hte : TextEffBetween (some k) st st1) (hs : step k c c1) :
    TxtFacts c c1 [] [] st st1 := by
  obtain ⟨w, ho, hn, ht⟩ := hte
  refine ⟨fun V hp => ?_, fun W h => by simpa [hn] using h⟩
  rw [List.append_nil]
  have clean (h : Pre true V st) : Pre true V st1 := by
    rw [pre_clean] at h ⊢; rw [ho, textOf_append]; exact h.trans (List.sublist_append_left _ _)
  cases k with
  | keep =>
    cases hs
    cases c with
    | true => exact clean hp
    | false =>
      rw [pre_dirty, ho, textOf_append, show st1.data = st.data from ht, List.append_assoc]
      exact ((pre_dirty _ _).1 hp).trans ((List.Sublist.refl _).append (List.sublist_append_right _ _))
  | flush =>
    cases hs
    rw [pre_clean, ho, textOf_append]
    exact hp.dirty.trans ((List.Sublist.refl _).append ht.1.sublist)
  | purge =>
    obtain ⟨rfl, rfl⟩ := hs
    exact clean hp

theorem vis_plain {q : Str} (a : Attrs) (kids : List Node) (h1 : isNoteQ q = false) (h2 : isIgnQ q = false) :
    visMain (.elem q a kids) = visMainL kids ∧ visNotes (.elem q a kids) = visNotesL kids := by
  simp [visMain, visNotes, h1, h2]

theorem vis_of_start {q : Str} {hs : HName} {he : Option HName} {k : TKind} (a : Attrs) (kids : List Node)
    (hd : dispatch q = (some hs, he)) (hk : hkind hs = some k) :
    visMain (.elem q a kids) = visMainL kids ∧ visNotes (.elem q a kids) = visNotesL kids := by
  have h1 : hs ≠ .s_text_note := by rintro rfl; cases hk
  have h2 : hs ≠ .s_ignorexml := by rintro rfl; cases hk
  exact vis_plain a kids (by simp [isNoteQ, hd, h1]) (by simp [isIgnQ, hd, h2])

mutual
/-- **where the text goes**: running text that is `Txt` is converted without error, with the effect `Eff` of `walk_flow`,
    and its visible text is in the written text (or still pending, if `c' = false`) behind everything that was there
    before, in document order; the text of its note bodies is in the collected notes, in order -/
theorem walk_txt (cfg : Cfg) (n : Node) (b c c' : Bool) (ctx : Ctx) (st : St) (ht : Txt b c c' n) (hpe : ctx.pe = true)
    (hpc : ctx.pc = true) (hst : ctx.stack ≠ []) (hi : Inv b st) :
    ∃ st', walk cfg ctx st n = .ok st' ∧ Eff b st st' ∧ TxtFacts c c' (visMain n) (visNotes n) st st' := by
  match ht with
  | .text _ _ s =>
    refine ⟨{ st with data := st.data ++ s }, by simp [walk, hpe, hpc], Eff.of_data hi _, ?_, ?_⟩
    · intro V h; simpa [visMain, ← List.append_assoc] using h.dirty.append (List.Sublist.refl s)
    · simp [visNotes]
  | .transparent _ _ _ q a kids hd hk =>
    obtain ⟨v1, v2⟩ := vis_plain (q := q) a kids (by simp [isNoteQ, hd]) (by simp [isIgnQ, hd])
    rw [walk_transparent hd hpe, v1, v2]
    exact walkList_txt cfg kids b c c' ⟨(q, a) :: ctx.stack, ctx.pe, ctx.pc⟩ st hk hpe hpc (by simp) hi
  | .ignored _ _ q a kids he hd =>
    exact ⟨st, walk_ignored hd hpe, Eff.refl hi, by
      simpa [visMain, visNotes, isIgnQ, hd] using TxtFacts.refl c st⟩
  | .bracket _ _ c1 c2 _ q a kids hs he ks ke hd hb hks hke hs1' hk hs2' =>
    obtain ⟨st1, hi1, te1, hrest⟩ := bracket_eff cfg ctx st q a kids hd hb hpe hi
    obtain ⟨st2, h2, e2, t2⟩ := walkList_txt cfg kids b c1 c2 ⟨(q, a) :: ctx.stack, ctx.pe, ctx.pc⟩ st1 hk hpe hpc (by simp) hi1
    obtain ⟨st3, h3, e3, te3⟩ := hrest st2 h2 e2
    exact ⟨st3, h3, e3, by
      simpa [vis_of_start a kids hd hks] using ((TxtFacts.of_handler (hks ▸ te1) hs1').trans t2).trans (TxtFacts.of_handler (hke ▸ te3) hs2')⟩
  | .leaf _ _ c1 _ q a kids hs k hd hl hk' hs1' hk =>
    obtain ⟨st1, e1, te1, hw⟩ := leaf_eff cfg ctx st q a kids hd hl hpe hst hi
    obtain ⟨st2, h2, e2, t2⟩ := walkList_txt cfg kids b c1 c' ⟨(q, a) :: ctx.stack, ctx.pe, ctx.pc⟩ st1 hk hpe hpc (by simp) (e1.inv hi)
    exact ⟨st2, hw.trans h2, e1.trans e2, by simpa [vis_of_start a kids hd hk'] using (TxtFacts.of_handler (hk' ▸ te1) hs1').trans t2⟩
  | .note _ q a qc ac cite qb ab kids hd hdc hdb hk =>
    obtain ⟨st3, hi3, hrest⟩ := note_eff cfg ctx st q a qc ac cite qb ab kids hd hdc hdb hpe hi
    obtain ⟨st4, h4, e4, t4⟩ := walkList_txt cfg kids true true true ⟨(qb, ab) :: (q, a) :: ctx.stack, true, ctx.pc⟩ st3 hk rfl hpc (by simp) hi3
    obtain ⟨st5, h5, e5, hout, hnotes⟩ := hrest st4 h4 e4
    have v : visMain (.elem q a [.elem qc ac (cite.map Node.text), .elem qb ab kids]) = [] ∧
        visNotes (.elem q a [.elem qc ac (cite.map Node.text), .elem qb ab kids]) = visMainL kids := by
      simp [visMain, visNotes, isNoteQ, isIgnQ, hd]
    refine ⟨st5, h5, e5, ?_⟩
    rw [v.1, v.2]
    constructor
    · intro V h; simpa [hout, noteRef, tokText] using h.dirty
    · intro W h; simpa [hnotes, notesText] using h.append t4.clean
termination_by structural ht

theorem walkList_txt (cfg : Cfg) (l : List Node) (b c c' : Bool) (ctx : Ctx) (st : St) (ht : TxtL b c c' l) (hpe : ctx.pe = true)
    (hpc : ctx.pc = true) (hst : ctx.stack ≠ []) (hi : Inv b st) :
    ∃ st', walkList cfg ctx st l = .ok st' ∧ Eff b st st' ∧ TxtFacts c c' (visMainL l) (visNotesL l) st st' := by
  match ht with
  | .nil _ _ => exact ⟨st, rfl, Eff.refl hi, by simpa [visMainL, visNotesL] using TxtFacts.refl c st⟩
  | .cons _ _ c1 _ n ns hn hns =>
    obtain ⟨st1, h1, e1, t1⟩ := walk_txt cfg n b c c1 ctx st hn hpe hpc hst hi
    obtain ⟨st2, h2, e2, t2⟩ := walkList_txt cfg ns b c1 c' ctx st1 hns hpe hpc hst (e1.inv hi)
    exact ⟨st2, by simp [walkList, h1, h2], e1.trans e2, by simpa [visMainL, visNotesL] using t1.trans t2⟩
termination_by structural ht
end

end OdfModel.Xhtml
