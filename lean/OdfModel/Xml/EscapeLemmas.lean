/-
  Lemmas about the string encoders (model in `OdfModel.Xml.Escape`).
  The filter: facts about the generated table are reduced to checks on its endpoints, which the kernel evaluates, so
  they are re-checked against the regenerated table on every build.
  The escapers: a chain of `str.replace` calls with one-character patterns is a table of replacements worked through in
  order.  On a single character it is a lookup in the table, provided no replacement text contains a character that a
  later call of the chain would touch (`stable`, checked on each concrete table); and `replace1` commutes with `flatMap`.
-/
import OdfModel.Xml.Escape
import OdfModel.Spec.XmlParse
import OdfModel.ListFacts
namespace OdfModel.Xml
open OdfModel OdfModel.Spec

theorem inRanges_mono {rs rs' : List (Nat × Nat)} (h : rs.all (fun r => rs'.any fun r' => r'.1 ≤ r.1 && r.2 ≤ r'.2) = true)
    {c : Nat} (hc : inRanges rs c = true) : inRanges rs' c = true := by
  obtain ⟨r, hr, hrc⟩ := List.any_eq_true.mp hc
  obtain ⟨r', hr', hrr⟩ := List.any_eq_true.mp (List.all_eq_true.mp h r hr)
  simp only [Bool.and_eq_true, decide_eq_true_eq] at hrc hrr
  -- restated over `Nat`: `omega` does not look through `Cp`
  have hrc : r.1 ≤ c ∧ c ≤ r.2 := hrc
  have : r'.1 ≤ c ∧ c ≤ r'.2 := ⟨by omega, by omega⟩
  exact List.any_eq_true.mpr ⟨r', hr', by simpa using this⟩

theorem inRanges_of_gap {rs : List (Nat × Nat)} {a b : Nat} (h : rs.all (fun r => b < r.1 || r.2 < a) = true)
    {c : Nat} (ha : a ≤ c) (hb : c ≤ b) : inRanges rs c = false := by
  refine List.any_eq_false.mpr fun r hr => ?_
  have := List.all_eq_true.mp h r hr
  simp only [Bool.or_eq_true, decide_eq_true_eq] at this
  have : ¬ (r.1 ≤ c ∧ c ≤ r.2) := by omega
  simpa using this

/-- the code points that are not XML 1.0 `Char`s -/
def nonChars : List (Nat × Nat) := [(0, 8), (11, 12), (14, 31), (0xD800, 0xDFFF), (0xFFFE, 0xFFFF)]

theorem inRanges_nonChars (c : Cp) : inRanges nonChars c = true ↔ isXmlChar c = false ∧ c < 0x110000 := by
  simp [inRanges, nonChars, isXmlChar]
  grind

theorem notXmlChar_filtered (c : Cp) (h : isXmlChar c = false) (hc : c < 0x110000) : filtered c = true :=
  inRanges_mono (by decide) ((inRanges_nonChars c).mpr ⟨h, hc⟩)

theorem unfiltered_isXmlChar (c : Cp) (hc : c < 0x110000) (h : filtered c = false) : isXmlChar c = true := by
  cases hx : isXmlChar c with
  | true => rfl
  | false => rw [notXmlChar_filtered c hx hc] at h; cases h

/-- the "discouraged" code points: XML 1.0 can represent them, the library replaces them anyway
    (known finding KF-C02-1, pinned by tests.testunicode.test_illegaltext) -/
def discouragedRanges : List (Nat × Nat) :=
  [(0x7F, 0x84), (0x86, 0x9F), (0x1FFFE, 0x1FFFF), (0x2FFFE, 0x2FFFF), (0x3FFFE, 0x3FFFF), (0x4FFFE, 0x4FFFF),
   (0x5FFFE, 0x5FFFF), (0x6FFFE, 0x6FFFF), (0x7FFFE, 0x7FFFF), (0x8FFFE, 0x8FFFF), (0x9FFFE, 0x9FFFF),
   (0xAFFFE, 0xAFFFF), (0xBFFFE, 0xBFFFF), (0xCFFFE, 0xCFFFF), (0xDFFFE, 0xDFFFF), (0xEFFFE, 0xEFFFF),
   (0xFFFFE, 0xFFFFF), (0x10FFFE, 0x10FFFF)]
def discouraged (c : Cp) : Bool := inRanges discouragedRanges c

theorem filtered_cases (c : Cp) (h : filtered c = true) : isXmlChar c = false ∨ discouraged c = true := by
  have := inRanges_mono (rs' := nonChars ++ discouragedRanges) (by decide) h
  simp only [inRanges, List.any_append, Bool.or_eq_true] at this
  exact this.imp (fun h => ((inRanges_nonChars c).mp h).1) id

theorem replace1_flatMap (c : Cp) (rep : Str) (f : Cp → Str) (s : Str) :
    replace1 c rep (s.flatMap f) = s.flatMap (fun x => replace1 c rep (f x)) := by
  simp [replace1, List.flatMap_assoc]

theorem mem_replace1 {x c : Cp} {rep s : Str} (h : x ∈ replace1 c rep s) : x ∈ s ∨ x ∈ rep := by
  obtain ⟨y, hy, hx⟩ := List.mem_flatMap.mp h
  split at hx
  · exact .inr hx
  · exact .inl (List.mem_singleton.mp hx ▸ hy)

theorem replace1_of_not_mem (c : Cp) (rep s : Str) (h : c ∉ s) : replace1 c rep s = s :=
  (flatMap_congr_left fun x hx => if_neg fun (e : x = c) => h (e ▸ hx)).trans (List.flatMap_singleton' s)

/-- one character through a table of replacements: the first entry for it, or the character itself -/
def encBy : List (Cp × Str) → Cp → Str
  | [], d => [d]
  | (k, rep) :: es, d => if d = k then rep else encBy es d

def keys (E : List (Cp × Str)) : List Cp := E.map (·.1)

theorem encBy_cases (E : List (Cp × Str)) (d : Cp) : (encBy E d = [d] ∧ d ∉ keys E) ∨ (d, encBy E d) ∈ E := by
  fun_induction encBy E d with
  | case1 d => exact .inl ⟨rfl, List.not_mem_nil⟩
  | case2 k rep es => exact .inr List.mem_cons_self
  | case3 k rep es d hd ih =>
    exact ih.imp (fun h => ⟨h.1, by simpa [keys, hd] using h.2⟩) (List.mem_cons_of_mem _)

/-- only the first entry for a character counts, so two neighbouring entries for different characters may change places -/
theorem encBy_swap {k1 k2 : Cp} (h : k1 ≠ k2) (r1 r2 : Str) (E : List (Cp × Str)) (d : Cp) :
    encBy ((k1, r1) :: (k2, r2) :: E) d = encBy ((k2, r2) :: (k1, r1) :: E) d := by
  simp only [encBy]
  split
  · next h1 => rw [if_neg (h1 ▸ h)]
  · rfl

/-- the replacements of a table applied one after the other, as `str.replace` calls -/
def replaceAll (es : List (Cp × Str)) (s : Str) : Str := es.foldl (fun d e => replace1 e.1 e.2 d) s

/-- no replacement text contains a character that a later `str.replace` of the chain would touch -/
def stable : List (Cp × Str) → Bool
  | [] => true
  | (_, rep) :: es => es.all (fun e => !rep.contains e.1) && stable es

theorem replaceAll_of_not_mem {es : List (Cp × Str)} {s : Str} (h : es.all (fun e => !s.contains e.1) = true) :
    replaceAll es s = s := by
  induction es with
  | nil => rfl
  | cons e r ih =>
    simp only [List.all_cons, Bool.and_eq_true, Bool.not_eq_true', List.contains_eq_mem, decide_eq_false_iff_not] at h
    simp only [replaceAll, List.foldl_cons, replace1_of_not_mem _ _ _ h.1]
    exact ih (by simpa using h.2)

theorem replaceAll_single {es : List (Cp × Str)} (h : stable es = true) (d : Cp) : replaceAll es [d] = encBy es d := by
  induction es with
  | nil => rfl
  | cons e r ih =>
    simp only [stable, Bool.and_eq_true] at h
    simp only [replaceAll, List.foldl_cons, replace1, List.flatMap_cons, List.flatMap_nil, List.append_nil, encBy]
    split
    · exact replaceAll_of_not_mem h.1
    · exact ih h.2

theorem replaceAll_flatMap (es : List (Cp × Str)) (f : Cp → Str) (s : Str) :
    replaceAll es (s.flatMap f) = s.flatMap (fun x => replaceAll es (f x)) := by
  induction es generalizing f with
  | nil => rfl
  | cons e r ih =>
    simp only [replaceAll, List.foldl_cons, replace1_flatMap] at ih ⊢
    exact ih _

theorem replaceAll_eq_flatMap {es : List (Cp × Str)} (h : stable es = true) (s : Str) :
    replaceAll es s = s.flatMap (encBy es) := by
  calc replaceAll es s
      = replaceAll es (s.flatMap fun d => [d]) := by rw [List.flatMap_singleton']
    _ = s.flatMap fun d => replaceAll es [d] := replaceAll_flatMap es _ s
    _ = s.flatMap (encBy es) := flatMap_congr_left fun d _ => replaceAll_single h d

/-- the table `_escape` works through: `&`, `<`, `>`, then the caller's entities -/
def entTable (ents : List (Cp × Str)) : List (Cp × Str) := (38, AMP) :: (60, LT) :: (62, GT) :: ents

theorem escape_eq (s : Str) (ents : List (Cp × Str)) : escape s ents = replaceAll (entTable ents) s := rfl

theorem sanitize_eq (s : Str) (ents : List (Cp × Str)) (h : stable (entTable ents) = true) :
    sanitize s ents = (s.map hu).flatMap (encBy (entTable ents)) := by
  rw [sanitize, escape_eq, replaceAll_eq_flatMap h, handleUnrep]

/- `escTextC c` and `escAttrC c` are `encBy` of the two tables at `hu c`: the `if` chains coincide, by `rfl`. -/

theorem sanitize_text (s : Str) : sanitize s textEnts = s.flatMap escTextC :=
  (sanitize_eq s textEnts (by decide)).trans (List.flatMap_map ..)

theorem sanitize_attr (s : Str) : sanitize s attrEnts = s.flatMap escAttrC :=
  (sanitize_eq s attrEnts (by decide)).trans (List.flatMap_map ..)

end OdfModel.Xml
