/-
  Namespace round trip for whole trees (`resolve_rawRoot`), the tree-level canonical form `canonT`, and how it sits over
  the lexical one (`canon_rawRoot`).  `Compose.lean` puts the two round trips together.
-/
import OdfModel.Xml.NsLemmas
namespace OdfModel.Xml
open OdfModel OdfModel.Spec

/- `h` here and below is the second half of `AttrsQOK`, as the callers have it (its `StrOK` part is not needed). -/
theorem declsOf_rawAttrs {tbl : NsTable} (ht : TableOK tbl) (as : List (QName × Str))
    (h : ∀ a ∈ as, QNameOK a.1 ∧ Covered tbl a.1 ∧ StrOK a.2) : declsOf (rawAttrs tbl as) = some [] := by
  fun_induction rawAttrs tbl as with
  | case1 => rfl
  | case2 q v r ih =>
    obtain ⟨ha, hr⟩ := List.forall_mem_cons.mp h
    simp only [declsOf, (not_decl_qualify ht q ha.1 ha.2.1).1]
    exact ih hr

theorem resolveAttrs_rawAttrs {tbl : NsTable} (ht : TableOK tbl) {env : NsEnv} (he : EnvFor tbl env)
    (as : List (QName × Str)) (h : ∀ a ∈ as, QNameOK a.1 ∧ Covered tbl a.1 ∧ StrOK a.2) :
    resolveAttrs env (rawAttrs tbl as) = some as := by
  fun_induction rawAttrs tbl as with
  | case1 => rfl
  | case2 q v r ih =>
    obtain ⟨ha, hr⟩ := List.forall_mem_cons.mp h
    have hnd := not_decl_qualify ht q ha.1 ha.2.1
    have : qualify tbl q ≠ [120, 109, 108, 110, 115] := hnd.2
    simp only [resolveAttrs, hnd.1, this, if_false, resolveName_qualify ht he q ha.1 ha.2.1, ih hr]

theorem declsOf_nsDecls (tbl : NsTable) (h : ∀ e ∈ tbl, isNCName e.2 = true ∧ e.1 ≠ [])
    (rest : List (Str × Str)) (hrest : declsOf rest = some []) :
    declsOf (nsDecls tbl ++ rest) = some (envOf tbl) := by
  induction tbl with
  | nil => simpa [nsDecls, envOf] using hrest
  | cons e r ih =>
    obtain ⟨he, hr⟩ := List.forall_mem_cons.mp h
    simp only [nsDecls, List.cons_append, declsOf, dropPrefix?_append, he.1, List.isEmpty_eq_false_iff.mpr he.2,
      Bool.not_false, Bool.and_self, if_true, ih hr, Option.map_some, envOf, List.map_cons]

theorem resolveAttrs_nsDecls (env : NsEnv) (tbl : NsTable) (rest : List (Str × Str)) :
    resolveAttrs env (nsDecls tbl ++ rest) = resolveAttrs env rest := by
  induction tbl with
  | nil => rfl
  | cons e r ih => obtain ⟨n, p⟩ := e; simp only [nsDecls, List.cons_append, resolveAttrs, dropPrefix?_append, ih]

mutual
theorem resolve_rawOf {tbl : NsTable} (ht : TableOK tbl) {env : NsEnv} (he : EnvFor tbl env) (u : Node)
    (hu : TreeOK tbl u) : resolve env (rawOf tbl u) = some u := by
  cases u with
  | text s => rfl
  | cdata s => rfl
  | elem q attrs kids =>
    obtain ⟨hq, hc, ha, hk⟩ := hu
    simp only [rawOf, resolve, declsOf_rawAttrs ht attrs ha.2, List.nil_append,
      resolveName_qualify ht he q hq hc, resolveAttrs_rawAttrs ht he attrs ha.2,
      resolveF_rawOfF ht he kids hk, ha.1, if_true]
theorem resolveF_rawOfF {tbl : NsTable} (ht : TableOK tbl) {env : NsEnv} (he : EnvFor tbl env) (f : Forest)
    (hf : ForestOK tbl f) : resolveF env (rawOfF tbl f) = some f := by
  cases f with
  | nil => rfl
  | cons h t =>
    obtain ⟨hh, ht'⟩ := hf
    simp only [rawOfF, resolveF, resolve_rawOf ht he h hh, resolveF_rawOfF ht he t ht']
end

/-- **namespace round trip**: the root as written by `toXml(0)`, resolved in the empty environment -/
theorem resolve_rawRoot {tbl : NsTable} (ht : TableOK tbl) (q : QName) (attrs : List (QName × Str)) (kids : Forest)
    (hu : TreeOK tbl (.elem q attrs kids)) :
    resolve [] (rawRoot tbl (.elem q attrs kids)) = some (.elem q attrs kids) := by
  obtain ⟨hq, hc, ha, hk⟩ := hu
  have he : EnvFor tbl (envOf tbl ++ []) := envFor_envOf ht []
  simp only [rawRoot, resolve,
    declsOf_nsDecls tbl (fun e he => ⟨(ht.2 e he).1, (ht.2 e he).2.2.1⟩) _ (declsOf_rawAttrs ht attrs ha.2),
    resolveName_qualify ht he q hq hc, resolveAttrs_nsDecls, resolveAttrs_rawAttrs ht he attrs ha.2,
    resolveF_rawOfF ht he kids hk, ha.1, if_true]

/-- the attribute list a parser must return: every value through the writer's filter -/
def huAttrsQ : List (QName × Str) → List (QName × Str)
  | [] => []
  | (q, v) :: r => (q, v.map hu) :: huAttrsQ r

/-- pending character data becomes one text node, unless there is none -/
def flushT (acc : Str) (f : Forest) : Forest := if acc.isEmpty then f else .cons (.text acc) f

/-- children: character data (text and CDATA alike) filtered through `hu`, adjacent runs merged, empty runs dropped -/
def canonTF (acc : Str) : Forest → Forest
  | .nil => flushT acc .nil
  | .cons (.text s) t => canonTF (acc ++ s.map hu) t
  | .cons (.cdata s) t => canonTF (acc ++ s.map hu) t
  | .cons (.elem q attrs kids) t => flushT acc (.cons (.elem q (huAttrsQ attrs) (canonTF [] kids)) (canonTF [] t))

/-- **what a conforming parser must return for the written tree** (the right-hand side of C02, `parseDoc_render`).
    Only an element can be a document root; the other two cases are left as they are. -/
def canonT : Node → Node
  | .elem q attrs kids => .elem q (huAttrsQ attrs) (canonTF [] kids)
  | n => n

theorem huAttrsQ_eq_map (as : List (QName × Str)) : huAttrsQ as = as.map (fun a => (a.1, a.2.map hu)) := by
  induction as with
  | nil => rfl
  | cons a r ih => simp [huAttrsQ, ih]

theorem rawAttrs_huAttrsQ (tbl : NsTable) (as : List (QName × Str)) :
    rawAttrs tbl (huAttrsQ as) = huAttrs (rawAttrs tbl as) := by
  simp [rawAttrs_eq_map, huAttrsQ_eq_map, huAttrs_eq_map]

theorem rawOfF_flushT (tbl : NsTable) (acc : Str) (f : Forest) :
    rawOfF tbl (flushT acc f) = flush acc (rawOfF tbl f) := by
  unfold flushT flush; split <;> simp [rawOfF, rawOf]

theorem rawOfF_canonTF (tbl : NsTable) (acc : Str) (f : Forest) :
    rawOfF tbl (canonTF acc f) = canonF acc (rawOfF tbl f) := by
  fun_induction canonTF acc f with
  | case1 acc => simp [rawOfF_flushT, rawOfF, canonF]
  | case2 acc s t ih | case3 acc s t ih => simp [rawOfF, rawOf, canonF, ih]
  | case4 acc q attrs kids t ih1 ih2 =>
    simp [rawOfF_flushT, rawOfF, rawOf, canonF, ih1, ih2, rawAttrs_huAttrsQ]

/-- namespace names survive the filter unchanged -/
def NsClean (tbl : NsTable) : Prop := ∀ e ∈ tbl, e.1.map hu = e.1

theorem huAttrs_nsDecls (tbl : NsTable) (h : NsClean tbl) : huAttrs (nsDecls tbl) = nsDecls tbl := by
  simp only [huAttrs_eq_map, nsDecls_eq_map, List.map_map]
  exact List.map_congr_left fun e he => by simp [h e he]

theorem huAttrs_append (a b : List (Str × Str)) : huAttrs (a ++ b) = huAttrs a ++ huAttrs b := by
  simp [huAttrs_eq_map]

/-- the canonical form of the written root is the written form of the canonical root -/
theorem canon_rawRoot (tbl : NsTable) (hc : NsClean tbl) (q : QName) (attrs : List (QName × Str)) (kids : Forest) :
    RNode.elem (qualify tbl q) (huAttrs (nsDecls tbl ++ rawAttrs tbl attrs)) (canonF [] (rawOfF tbl kids)) =
      rawRoot tbl (canonT (.elem q attrs kids)) := by
  simp [rawRoot, canonT, huAttrs_append, huAttrs_nsDecls tbl hc, rawAttrs_huAttrsQ, rawOfF_canonTF]

end OdfModel.Xml
