/-
  Content round trip, character level: single steps of the reference parser's content loop `parseForest` (the `pf_…`
  lemmas; its Boolean argument says whether the loop is inside a CDATA section), and what it does on the output of
  `Text.toXml` (`pf_text`) and `CDATASection.toXml` (`pf_cdata`; `bodyC` is what stands between `<![CDATA[` and `]]>`).
-/
import OdfModel.Xml.TagLemmas
namespace OdfModel.Xml
open OdfModel OdfModel.Spec

theorem pf_cd_close (f : Nat) (acc Y : Str) :
    parseForest (f + 1) true acc (93 :: 93 :: 62 :: Y) = parseForest f false acc Y := by
  rw [parseForest]; simp [CDC, dropPrefix?]

theorem pf_cd_char (f : Nat) (acc r : Str) (c : Nat) (h : dropPrefix? CDC (c :: r) = none)
    (hx : isXmlChar c = true) (h13 : c ≠ 13) :
    parseForest (f + 1) true acc (c :: r) = parseForest f true (acc ++ [c]) r := by
  rw [parseForest]; simp [h, hx, h13]

theorem pf_open_cd (f : Nat) (acc Y : Str) :
    parseForest (f + 1) false acc (60 :: 33 :: 91 :: 67 :: 68 :: 65 :: 84 :: 65 :: 91 :: Y) = parseForest f true acc Y := by
  rw [parseForest]; simp [CDO, dropPrefix?]

theorem pf_ref (f : Nat) (acc r r1 : Str) (d : Nat) (h : parseRef r = some (d, r1)) :
    parseForest (f + 1) false acc (38 :: r) = parseForest f false (acc ++ [d]) r1 := by
  rw [parseForest]; simp [CDO, dropPrefix?, h]

theorem pf_lit (f : Nat) (acc r : Str) (c : Nat) (hc : c ∉ [38, 60, 62, 13]) (hx : isXmlChar c = true) :
    parseForest (f + 1) false acc (c :: r) = parseForest f false (acc ++ [c]) r := by
  simp only [List.mem_cons, List.not_mem_nil, or_false, not_or] at hc
  rw [parseForest]; simp [CDO, dropPrefix?, hc, Ne.symm hc.2.1, hx]

theorem pf_close (f : Nat) (acc X : Str) :
    parseForest (f + 1) false acc (60 :: 47 :: X) = some (flush acc .nil, 60 :: 47 :: X) := by
  rw [parseForest]; simp [dropPrefix?]

/-- a run of character data written through a table of references: the parser arrives at what follows with the data
    appended to the pending data -/
theorem pf_text {E : List (Cp × Str)} (hE : RefTable [38, 60, 62, 13] E) (Y t : Str) : ∀ (acc : Str) (fuel : Nat),
    (∀ c ∈ t, isXmlChar c = true) → (t.flatMap (encBy E) ++ Y).length + 1 ≤ fuel →
    ∃ fuel', Y.length + 1 ≤ fuel' ∧
      parseForest fuel false acc (t.flatMap (encBy E) ++ Y) = parseForest fuel' false (acc ++ t) Y := by
  induction t with
  | nil => intro acc fuel _ hf; exact ⟨fuel, by simpa using hf, by simp⟩
  | cons d r ih =>
    intro acc fuel ht hf
    obtain ⟨f, rfl⟩ : ∃ f, fuel = f + 1 := ⟨fuel - 1, by omega⟩
    obtain ⟨hd, hr⟩ := List.forall_mem_cons.mp ht
    have hpos := encBy_length_pos hE.1 d
    simp only [List.flatMap_cons, List.append_assoc, List.length_append] at hf ⊢
    rw [encBy_read hE.1 (parseForest (f + 1) false acc) (parseForest f false (acc ++ [d])) d
      (fun hnk Y => pf_lit f acc Y d (fun hm => hnk (hE.2 _ hm)) hd)
      (fun r Y h => pf_ref f acc r Y d h)]
    obtain ⟨f', hf', h⟩ := ih (acc ++ [d]) f hr (by simp only [List.length_append]; omega)
    exact ⟨f', hf', by rw [h]; simp⟩

/-- the body of the section as written: `replace('\r', …)` after `replace(']]>', …)` -/
def bodyC (t : Str) : Str := replace1 13 (CDC ++ R13 ++ CDO) (replCdataEnd t)

theorem bodyC_nil : bodyC [] = [] := by simp [bodyC, replCdataEnd, replace1]

theorem bodyC_pat (r : Str) :
    bodyC (93 :: 93 :: 62 :: r) = 93 :: 93 :: 93 :: 93 :: 62 :: 60 :: 33 :: 91 :: 67 :: 68 :: 65 :: 84 :: 65 :: 91 :: 62 :: bodyC r := by
  simp [bodyC, replCdataEnd, replace1, CDC, CDO]

theorem mem_replCdataEnd {x : Cp} {t : Str} (h : x ∈ replCdataEnd t) : x ∈ t ∨ x ∈ CDC ++ CDO := by
  fun_induction replCdataEnd t with
  | case1 r ih =>
    rcases List.mem_append.mp h with h | h
    · exact .inr ((by decide : ∀ x ∈ [93, 93] ++ CDC ++ CDO ++ [62], x ∈ CDC ++ CDO) x h)
    · exact (ih h).imp (fun hr => by simp [hr]) id
  | case2 c r hnp ih =>
    rcases List.mem_cons.mp h with h | h
    · exact .inl (h ▸ List.mem_cons_self)
    · exact (ih h).imp (List.mem_cons_of_mem _) id
  | case3 => cases h

theorem bodyC_cr (r : Str) :
    bodyC (13 :: r) = 93 :: 93 :: 62 :: 38 :: 35 :: 49 :: 51 :: 59 :: 60 :: 33 :: 91 :: 67 :: 68 :: 65 :: 84 :: 65 :: 91 :: bodyC r := by
  unfold bodyC
  rw [replCdataEnd.eq_2 13 r fun _ h => absurd h (by decide)]
  simp [replace1, CDC, CDO, R13]

theorem bodyC_cons (c : Nat) (r : Str) (h13 : c ≠ 13) (h : ∀ r', c :: r ≠ 93 :: 93 :: 62 :: r') :
    bodyC (c :: r) = c :: bodyC r := by
  unfold bodyC
  rw [replCdataEnd.eq_2 c r fun r' hc hr => h r' (by rw [hc, hr])]
  simp [replace1, h13]

/-- what follows inside a section begins with `]]`, or with the first data character written as it is -/
theorem bodyC_head (r W : Str) :
    (∃ V, bodyC r ++ 93 :: 93 :: W = 93 :: 93 :: V) ∨ (∃ d r1, r = d :: r1 ∧ bodyC r = d :: bodyC r1) := by
  cases r with
  | nil => exact .inl ⟨W, by simp [bodyC_nil]⟩
  | cons d r1 =>
    by_cases h13 : d = 13
    · exact .inl ⟨_, by rw [h13, bodyC_cr]; rfl⟩
    · by_cases hp : ∃ r', d :: r1 = 93 :: 93 :: 62 :: r'
      · obtain ⟨r', hr'⟩ := hp
        exact .inl ⟨_, by rw [hr', bodyC_pat]; rfl⟩
      · exact .inr ⟨d, r1, rfl, bodyC_cons d r1 h13 fun r' h => hp ⟨r', h⟩⟩

/-- inside a section, a data character that does not begin `]]>` is never mistaken for the end of the section -/
theorem no_cdc (c : Nat) (r Y : Str) (h13 : c ≠ 13) (h : ∀ r', c :: r ≠ 93 :: 93 :: 62 :: r') :
    dropPrefix? CDC (c :: (bodyC r ++ 93 :: 93 :: 62 :: Y)) = none := by
  by_cases hc : c = 93
  · subst hc
    -- the next two characters are not `]>`: look at most two data characters ahead
    rcases bodyC_head r (62 :: Y) with ⟨V, hV⟩ | ⟨d, r1, rfl, hd⟩
    · simp [hV, CDC, dropPrefix?]
    · rw [hd]
      by_cases hd93 : d = 93
      · subst hd93
        rcases bodyC_head r1 (62 :: Y) with ⟨V, hV⟩ | ⟨e, r2, rfl, he⟩
        · simp [hV, CDC, dropPrefix?]
        · have : e ≠ 62 := fun e62 => h r2 (by rw [e62])
          simp [he, CDC, dropPrefix?, Ne.symm this]
      · simp [CDC, dropPrefix?, Ne.symm hd93]
  · simp [CDC, dropPrefix?, Ne.symm hc]

/-- the body of a section, from inside the section to after its closing `]]>` -/
theorem pf_bodyC (Y : Str) (t : Str) : ∀ (acc : Str) (fuel : Nat),
    (∀ c ∈ t, isXmlChar c = true) →
    (bodyC t ++ 93 :: 93 :: 62 :: Y).length + 1 ≤ fuel →
    ∃ fuel', Y.length + 1 ≤ fuel' ∧
      parseForest fuel true acc (bodyC t ++ 93 :: 93 :: 62 :: Y) = parseForest fuel' false (acc ++ t) Y := by
  induction t using replCdataEnd.induct with
  | case1 r ih =>
    intro acc fuel hx hf
    rw [bodyC_pat] at hf ⊢
    simp only [List.cons_append, List.length_cons] at hf ⊢
    -- `]]>` was written as `]]` `]]>` `<![CDATA[` `>`: five steps of the loop — two data characters, the section
    -- closes, a section opens, one data character
    obtain ⟨f, rfl⟩ : ∃ f, fuel = f + 5 := ⟨fuel - 5, by omega⟩
    rw [pf_cd_char (f + 4) acc _ 93 (by simp [CDC, dropPrefix?]) (by decide) (by decide)]
    rw [pf_cd_char (f + 3) _ _ 93 (by simp [CDC, dropPrefix?]) (by decide) (by decide)]
    rw [pf_cd_close (f + 2), pf_open_cd (f + 1)]
    rw [pf_cd_char f _ _ 62 (by simp [CDC, dropPrefix?]) (by decide) (by decide)]
    obtain ⟨f', hf', h⟩ := ih (acc ++ [93] ++ [93] ++ [62]) f (fun c hc => hx c (by simp [hc])) (by omega)
    exact ⟨f', hf', by rw [h]; simp⟩
  | case2 c r hnp ih =>
    intro acc fuel hx hf
    have hnp' : ∀ r', c :: r ≠ 93 :: 93 :: 62 :: r' := by
      intro r' h; cases h; exact hnp r' rfl rfl
    by_cases h13 : c = 13
    · subst h13
      rw [bodyC_cr] at hf ⊢
      simp only [List.cons_append, List.length_cons] at hf ⊢
      -- CR was written as `]]>` `&#13;` `<![CDATA[`: three steps
      obtain ⟨f, rfl⟩ : ∃ f, fuel = f + 3 := ⟨fuel - 3, by omega⟩
      rw [pf_cd_close (f + 2), pf_ref (f + 1) acc _ _ 13 (parseRef_13 _), pf_open_cd f]
      obtain ⟨f', hf', h⟩ := ih (acc ++ [13]) f (fun c hc => hx c (by simp [hc])) (by omega)
      exact ⟨f', hf', by rw [h]; simp⟩
    · rw [bodyC_cons c r h13 hnp'] at hf ⊢
      simp only [List.cons_append, List.length_cons] at hf ⊢
      obtain ⟨f, rfl⟩ : ∃ f, fuel = f + 1 := ⟨fuel - 1, by omega⟩
      rw [pf_cd_char f acc _ c (no_cdc c r Y h13 hnp') (hx c (by simp)) h13]
      obtain ⟨f', hf', h⟩ := ih (acc ++ [c]) f (fun c' hc' => hx c' (by simp [hc'])) (by omega)
      exact ⟨f', hf', by rw [h]; simp⟩
  | case3 =>
    intro acc fuel _ hf
    rw [bodyC_nil] at hf ⊢
    simp only [List.nil_append, List.length_cons] at hf ⊢
    obtain ⟨f, rfl⟩ : ∃ f, fuel = f + 1 := ⟨fuel - 1, by omega⟩
    exact ⟨f, by omega, by rw [pf_cd_close]; simp⟩

theorem pf_cdata (Y : Str) (s : Str) (acc : Str) (fuel : Nat) (hs : StrOK s)
    (hf : (cdataToXml s ++ Y).length + 1 ≤ fuel) :
    ∃ fuel', Y.length + 1 ≤ fuel' ∧
      parseForest fuel false acc (cdataToXml s ++ Y) = parseForest fuel' false (acc ++ s.map hu) Y := by
  cases s with
  | nil => exact ⟨fuel, by simpa [cdataToXml] using hf, by simp [cdataToXml]⟩
  | cons c r =>
    have hb : cdataToXml (c :: r) = CDO ++ bodyC ((c :: r).map hu) ++ CDC := rfl
    rw [hb] at hf ⊢
    simp only [CDO, CDC, List.cons_append, List.nil_append, List.append_assoc, List.length_cons,
      List.length_append] at hf ⊢
    obtain ⟨f, rfl⟩ : ∃ f, fuel = f + 1 := ⟨fuel - 1, by omega⟩
    rw [pf_open_cd f]
    exact pf_bodyC Y _ acc f (isXmlChar_map_hu hs) (by simp only [List.length_append, List.length_cons]; omega)

end OdfModel.Xml
