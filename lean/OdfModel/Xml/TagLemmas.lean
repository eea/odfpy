/-
  Start-tag round trip: names, the attribute loop, the end tag.
-/
import OdfModel.Xml.AttrLemmas
namespace OdfModel.Xml
open OdfModel OdfModel.Spec

theorem isNameChar_ascii (c : Nat) (h : isNameChar c = true) :
    (45 ≤ c ∧ c ≤ 46) ∨ (48 ≤ c ∧ c ≤ 58) ∨ (65 ≤ c ∧ c ≤ 90) ∨ c = 95 ∨ (97 ≤ c ∧ c ≤ 122) := by
  simp [isNameChar, isNameStart] at h
  grind

theorem NameOK_all (n : Str) (h : NameOK n = true) : ∀ c ∈ n, isNameChar c = true := by
  cases n with
  | nil => simp [NameOK] at h
  | cons a r =>
    simp only [NameOK, Bool.and_eq_true, List.all_eq_true] at h
    exact List.forall_mem_cons.mpr ⟨by simp [isNameChar, h.1], h.2⟩

theorem sanitize_name (n : Str) (h : ∀ c ∈ n, isNameChar c = true) : sanitize n [] = n := by
  have hc (c : Nat) (hm : c ∈ n) := isNameChar_ascii c (h c hm)
  -- a name character is printable ASCII, which the filter leaves alone …
  have hfilter : n.map hu = n := map_hu_printable fun c hm => by have := hc c hm; omega
  -- … and none of `&`, `<`, `>`, which the table replaces
  have henc (c : Nat) (hm : c ∈ n) : encBy (entTable []) c = [c] := by
    have hne : c ≠ 38 ∧ c ≠ 60 ∧ c ≠ 62 := by have := hc c hm; omega
    simp [entTable, encBy, hne]
  rw [sanitize_eq n [] (by decide), hfilter, flatMap_congr_left henc, List.flatMap_singleton']

theorem takeName_append (n X : Str) (h : ∀ c ∈ n, isNameChar c = true) (hX : ∀ c, X.head? = some c → isNameChar c = false) :
    takeName (n ++ X) = (n, X) := by
  rw [takeName, List.takeWhile_append_of_pos h, List.dropWhile_append_of_pos h]
  cases X with
  | nil => simp
  | cons x r => simp [hX x rfl]

theorem dropPrefix?_append (p X : Str) : dropPrefix? p (p ++ X) = some X := by
  induction p with
  | nil => cases X <;> simp [dropPrefix?]
  | cons a r ih => simp [dropPrefix?, ih]

theorem dropPrefix?_eq_some {p l r : Str} (h : dropPrefix? p l = some r) : l = p ++ r := by
  fun_induction dropPrefix? p l with
  | case1 l => cases h; rfl
  | case2 => cases h
  | case3 c ps l ih => rw [ih h]; rfl
  | case4 => cases h

theorem parseClose_print (n X : Str) : parseClose n (60 :: 47 :: (n ++ 62 :: X)) = some X := by
  unfold parseClose
  rw [show 60 :: 47 :: (n ++ 62 :: X) = ([60, 47] ++ n ++ [62]) ++ X by simp, dropPrefix?_append]

/-- what the parser returns for the attribute list -/
def huAttrs : List (Str × Str) → List (Str × Str)
  | [] => []
  | (n, v) :: r => (n, v.map hu) :: huAttrs r

theorem huAttrs_eq_map (as : List (Str × Str)) : huAttrs as = as.map (fun a => (a.1, a.2.map hu)) := by
  induction as with
  | nil => rfl
  | cons a r ih => simp [huAttrs, ih]

theorem any_fst_beq {α β : Type} [BEq α] [LawfulBEq α] (r : List (α × β)) (n : α) :
    (r.any fun a => a.1 == n) = true ↔ n ∈ r.map (·.1) := by
  simp only [List.any_eq_true, List.mem_map, beq_iff_eq]

theorem nodupNames_iff (l : List (Str × Str)) : nodupNames l = true ↔ (l.map (·.1)).Nodup := by
  induction l with
  | nil => simp [nodupNames]
  | cons a r ih =>
    simp only [nodupNames, ih, Bool.and_eq_true, Bool.not_eq_true', ← Bool.not_eq_true, any_fst_beq, List.map_cons,
      List.nodup_cons]

theorem nodupNames_huAttrs (as : List (Str × Str)) : nodupNames (huAttrs as) = nodupNames as := by
  rw [Bool.eq_iff_iff, nodupNames_iff, nodupNames_iff, huAttrs_eq_map, List.map_map]; rfl

def AttrsOK (as : List (Str × Str)) : Prop := ∀ a ∈ as, NameOK a.1 = true ∧ StrOK a.2

/-- how a start tag ends: `/>` for an element without children, `>` otherwise -/
def tagEnd (e : Bool) : Str := if e then [47, 62] else [62]

theorem parseAttrs_cons (f : Nat) (n v R : Str) (q : Nat) (r1 : Str) (hn : NameOK n = true)
    (hq : q = 34 ∨ q = 39) (hv : parseAttVal (r1.length + 1) q r1 = some (v, R)) :
    parseAttrs (f + 1) (32 :: (n ++ 61 :: q :: r1)) =
      match parseAttrs f R with
      | none => none
      | some (as, e, r3) => some ((n, v) :: as, e, r3) := by
  have htn : takeName (n ++ 61 :: q :: r1) = (n, 61 :: q :: r1) :=
    takeName_append n _ (NameOK_all n hn) (by intro c hc; simp at hc; subst hc; decide)
  have hq' : (q = 34 || q = 39) = true := by rcases hq with rfl | rfl <;> simp
  rw [parseAttrs]
  simp only [htn, hn, Bool.not_true, Bool.false_eq_true, if_false, hq', if_true, hv]
  cases parseAttrs f R <;> rfl

theorem parseAttrs_print (e : Bool) (X : Str) (as : List (Str × Str)) :
    ∀ fuel, (printAttrs as ++ tagEnd e ++ X).length < fuel → AttrsOK as →
    parseAttrs fuel (printAttrs as ++ tagEnd e ++ X) = some (huAttrs as, e, X) := by
  induction as with
  | nil =>
    intro fuel hf _
    obtain ⟨f, rfl⟩ : ∃ f, fuel = f + 1 := ⟨fuel - 1, by omega⟩
    cases e <;> simp [printAttrs, parseAttrs, huAttrs, tagEnd]
  | cons a r ih =>
    intro fuel hf hok
    obtain ⟨f, rfl⟩ : ∃ f, fuel = f + 1 := ⟨fuel - 1, by omega⟩
    obtain ⟨n, v⟩ := a
    obtain ⟨ha, hr⟩ := List.forall_mem_cons.mp hok
    obtain ⟨q, r1, hq1, hq2, hq3⟩ := parseAttVal_quoteattr v (printAttrs r ++ tagEnd e ++ X) ha.2
    have hshape : printAttrs ((n, v) :: r) ++ tagEnd e ++ X = 32 :: (n ++ 61 :: q :: r1) := by
      simp only [printAttrs, sanitize_name n (NameOK_all n ha.1), List.append_assoc, List.cons_append, List.nil_append]
      rw [← hq1, List.append_assoc]
    have hlen : (printAttrs r ++ tagEnd e ++ X).length < f := by
      simp only [printAttrs, List.append_assoc, List.length_append, List.length_cons] at hf ⊢
      omega
    rw [hshape, parseAttrs_cons f n _ _ q r1 ha.1 hq2 hq3, ih f hlen hr]
    rfl

end OdfModel.Xml
