/-
  Attribute-value round trip: the reference parser reads back what `_quoteattr` wrote.
-/
import OdfModel.Xml.EscapeLemmas
namespace OdfModel.Xml
open OdfModel OdfModel.Spec

theorem isXmlChar_hu (c : Nat) (hc : c < 0x110000) : isXmlChar (hu c) = true := by
  unfold hu
  cases h : filtered c with
  | true => simp [isXmlChar]
  | false => simpa using unfiltered_isXmlChar c hc h

/-- `hu` produces a code point other than U+FFFD only from itself (here: one below U+FFFD, ASCII in particular) -/
theorem hu_eq_ascii {c k : Nat} (hk : k < 0xFFFD) (h : hu c = k) : c = k := by
  unfold hu at h
  split at h
  · subst h; exact absurd hk (by decide)
  · exact h

/- TAB, LF, CR and printable ASCII: what lies below U+007F and outside the generated table, whose first three intervals
   end at U+001F and whose fourth begins at U+007F (`inRanges_of_gap` checks the gap 32..126 against its endpoints). -/
theorem filtered_false_of (k : Nat) (h : k = 9 ∨ k = 10 ∨ k = 13 ∨ (32 ≤ k ∧ k ≤ 126)) : filtered k = false := by
  rcases h with rfl | rfl | rfl | h
  · decide
  · decide
  · decide
  · exact inRanges_of_gap (a := 32) (b := 126) (by decide) h.1 h.2

theorem hu_ascii (k : Nat) (h : k = 9 ∨ k = 10 ∨ k = 13 ∨ (32 ≤ k ∧ k ≤ 126)) : hu k = k := by
  simp [hu, filtered_false_of k h]

theorem map_hu_printable {s : Str} (h : ∀ c : Nat, c ∈ s → 32 ≤ c ∧ c ≤ 126) : s.map hu = s :=
  map_eq_self fun c hc => hu_ascii c (.inr (.inr (.inr (h c hc))))

theorem parseRef_13 (Y : Str) : parseRef (35 :: 49 :: 51 :: 59 :: Y) = some (13, Y) := by simp [parseRef, dropPrefix?]

/-- all characters are real code points -/
def StrOK (s : Str) : Prop := ∀ c ∈ s, c < 0x110000

theorem isXmlChar_map_hu {s : Str} (hs : StrOK s) : ∀ c ∈ s.map hu, isXmlChar c = true :=
  List.forall_mem_map.mpr fun c hc => isXmlChar_hu c (hs c hc)

/-- every replacement the writer uses, each a reference the parser knows -/
def allRefs : List (Cp × Str) := [(38, AMP), (60, LT), (62, GT), (34, QUOT), (10, R10), (13, R13), (9, R9)]

theorem parseRef_of_mem {d : Cp} {rep : Str} (h : (d, rep) ∈ allRefs) :
    ∃ n, rep = 38 :: n ∧ ∀ Y, parseRef (n ++ Y) = some (d, Y) := by
  simp only [allRefs, List.mem_cons, Prod.mk.injEq, List.not_mem_nil, or_false] at h
  rcases h with ⟨rfl, rfl⟩ | ⟨rfl, rfl⟩ | ⟨rfl, rfl⟩ | ⟨rfl, rfl⟩ | ⟨rfl, rfl⟩ | ⟨rfl, rfl⟩ | ⟨rfl, rfl⟩
  all_goals exact ⟨_, rfl, fun Y => by simp [parseRef, dropPrefix?]⟩

/-- a table of character references that replaces at least the characters `lits` (those the parser would not take
    literally); decidable, so `by decide` for each table the writer uses -/
abbrev RefTable (lits : List Cp) (E : List (Cp × Str)) : Prop := (∀ e ∈ E, e ∈ allRefs) ∧ ∀ k ∈ lits, k ∈ keys E

theorem encBy_elim {P : Str → Prop} {E : List (Cp × Str)} (hE : ∀ e ∈ E, e ∈ allRefs)
    (hrefs : ∀ e ∈ allRefs, P e.2) (d : Cp) (hd : P [d]) : P (encBy E d) := by
  rcases encBy_cases E d with ⟨h, _⟩ | h
  · rw [h]; exact hd
  · exact hrefs _ (hE _ h)

theorem encBy_length_pos {E : List (Cp × Str)} (hE : ∀ e ∈ E, e ∈ allRefs) (d : Cp) : 1 ≤ (encBy E d).length :=
  encBy_elim (P := fun s => 1 ≤ s.length) hE (by decide) d (Nat.le_refl 1)

/-- **one written character is one step of a reader** that takes `&` as the start of a reference and a character
    the table does not replace as it stands -/
theorem encBy_read {β : Type} {E : List (Cp × Str)} (hE : ∀ e ∈ E, e ∈ allRefs) (read next : Str → β) (d : Cp)
    (hlit : d ∉ keys E → ∀ Y, read (d :: Y) = next Y)
    (href : ∀ r Y, parseRef r = some (d, Y) → read (38 :: r) = next Y) (Y : Str) :
    read (encBy E d ++ Y) = next Y := by
  rcases encBy_cases E d with ⟨h, hnk⟩ | h
  · rw [h]; exact hlit hnk Y
  · obtain ⟨n, hn, hp⟩ := parseRef_of_mem (hE _ h)
    rw [hn]; exact href _ Y (hp Y)

theorem parseAttVal_ref (fuel : Nat) (q d : Nat) (r r1 : Str) (hq : q = 34 ∨ q = 39) (h : parseRef r = some (d, r1)) :
    parseAttVal (fuel + 1) q (38 :: r) = (parseAttVal fuel q r1).map fun p => (d :: p.1, p.2) := by
  have h1 : (38 : Nat) ≠ q := by omega
  rw [parseAttVal]
  simp only [h1, h, if_false, show (38:Nat) ≠ 60 by decide, if_true]
  cases parseAttVal fuel q r1 <;> rfl

theorem parseAttVal_lit (fuel : Nat) (q c : Nat) (r : Str) (hc : c ∉ [q, 38, 60, 9, 10, 13])
    (hx : isXmlChar c = true) :
    parseAttVal (fuel + 1) q (c :: r) = (parseAttVal fuel q r).map fun p => (c :: p.1, p.2) := by
  simp only [List.mem_cons, List.not_mem_nil, or_false, not_or] at hc
  rw [parseAttVal]
  simp only [hc, hx, if_false, if_true, Bool.or_self, decide_false, Bool.false_eq_true]
  cases parseAttVal fuel q r <;> rfl

/-- the body of a value quoted with `q`, up to the closing quote: the table replaces what the parser would not take
    literally, and `q` too where the value has one -/
theorem parseAttVal_body {E : List (Cp × Str)} (hE : RefTable [38, 60, 9, 10, 13] E) (q : Nat) (hq : q = 34 ∨ q = 39)
    (X t : Str) (ht : ∀ c ∈ t, isXmlChar c = true) (hqt : q ∈ t → q ∈ keys E) :
    ∀ fuel, (t.flatMap (encBy E) ++ q :: X).length < fuel →
    parseAttVal fuel q (t.flatMap (encBy E) ++ q :: X) = some (t, X) := by
  induction t with
  | nil =>
    intro fuel hf
    obtain ⟨f, rfl⟩ : ∃ f, fuel = f + 1 := ⟨fuel - 1, by omega⟩
    simp [parseAttVal]
  | cons d r ih =>
    intro fuel hf
    obtain ⟨f, rfl⟩ : ∃ f, fuel = f + 1 := ⟨fuel - 1, by omega⟩
    obtain ⟨hd, hr⟩ := List.forall_mem_cons.mp ht
    have hpos := encBy_length_pos hE.1 d
    simp only [List.flatMap_cons, List.append_assoc, List.length_append] at hf ⊢
    -- a character written as it stands is not the quote, nor one the parser would refuse
    have hl (hnk : d ∉ keys E) : d ∉ [q, 38, 60, 9, 10, 13] := fun hm =>
      (List.mem_cons.mp hm).elim (fun e => hnk (e ▸ hqt (by simp [e]))) (fun hm => hnk (hE.2 _ hm))
    rw [encBy_read hE.1 (parseAttVal (f + 1) q) (fun Y => (parseAttVal f q Y).map fun p => (d :: p.1, p.2)) d
        (fun hnk Y => parseAttVal_lit f q d Y (hl hnk) hd)
        (fun r Y h => parseAttVal_ref f q d r Y hq h),
      ih hr (fun h => hqt (List.mem_cons_of_mem _ h)) f (by simp only [List.length_append]; omega)]
    rfl

theorem mem_flatMap_escAttrC_34 (s : Str) (h : 34 ∈ s.flatMap escAttrC) : ∃ c ∈ s, hu c = 34 := by
  obtain ⟨c, hc, h34⟩ := List.mem_flatMap.mp h
  exact ⟨c, hc, encBy_elim (P := fun r => 34 ∈ r → hu c = 34) (E := entTable attrEnts) (by decide)
    (fun e he h => absurd h (by revert e; decide)) _ (fun h => (List.mem_singleton.mp h).symm) h34⟩

/-- the `&quot;` replacement is one more entry at the end of the table -/
theorem replace1_quot (s : Str) : replace1 34 QUOT (sanitize s attrEnts) = sanitize s (attrEnts ++ [(34, QUOT)]) := by
  simp [sanitize, escape, attrEnts]

/-- **`_quoteattr` in one line**: a quote, the filtered value through a table of references that replaces that quote
    where the value has one, the quote again -/
theorem quoteattr_eq (s : Str) :
    ∃ q E, RefTable [38, 60, 9, 10, 13] E ∧ (q = 34 ∨ q = 39) ∧ (q ∈ s.map hu → q ∈ keys E) ∧
      quoteattr s = q :: ((s.map hu).flatMap (encBy E) ++ [q]) := by
  unfold quoteattr
  simp only [List.elem_eq_mem, decide_eq_true_eq]
  split
  · split
    · rw [replace1_quot, sanitize_eq _ _ (by decide)]
      exact ⟨34, _, by decide, .inl rfl, fun _ => by decide, rfl⟩
    · rename_i h39
      rw [sanitize_eq _ _ (by decide)] at h39 ⊢
      exact ⟨39, _, by decide, .inr rfl, fun h => absurd (List.mem_flatMap.mpr ⟨39, h, by decide⟩) h39, rfl⟩
  · rename_i h34
    rw [sanitize_eq _ _ (by decide)] at h34 ⊢
    exact ⟨34, _, by decide, .inl rfl, fun h => absurd (List.mem_flatMap.mpr ⟨34, h, by decide⟩) h34, rfl⟩

/-- **attribute value round trip**: whatever quote style `_quoteattr` picks, the reference parser reads the value
    back as the filtered string -/
theorem parseAttVal_quoteattr (s X : Str) (hs : StrOK s) :
    ∃ q r1, quoteattr s ++ X = q :: r1 ∧ (q = 34 ∨ q = 39) ∧
      parseAttVal (r1.length + 1) q r1 = some (s.map hu, X) := by
  obtain ⟨q, E, hE, hq, hqt, heq⟩ := quoteattr_eq s
  exact ⟨q, _, by rw [heq]; simp, hq,
    parseAttVal_body hE q hq X _ (isXmlChar_map_hu hs) hqt _ (Nat.lt_succ_self _)⟩

end OdfModel.Xml
