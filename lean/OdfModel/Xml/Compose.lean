/-
  Composition: every tree that satisfies `TreeOK` w.r.t. an admissible table is written as a document the reference
  parser accepts, and the parser returns exactly the canonical form of the tree.  The written tree is lexically
  well-formed (`WFN_rawRoot`: the lexical round trip applies); the canonical tree is again admissible (`treeOK_canonT`:
  the namespace round trip applies to what the lexical one returns).
-/
import OdfModel.Xml.NsRoundTrip
namespace OdfModel.Xml
open OdfModel OdfModel.Spec

theorem NameOK_qualify {tbl : NsTable} (ht : TableOK tbl) (q : QName) (hq : QNameOK q) (hc : Covered tbl q) :
    NameOK (qualify tbl q) = true := by
  rcases qualify_cases ht q hc with ⟨_, hqual⟩ | ⟨p, _, hqual, hpnc, _⟩
  · rw [hqual]; exact nameOK_of_isNCName hq.1
  · rw [hqual]
    exact NameOK_append (nameOK_of_isNCName hpnc)
      (List.forall_mem_cons.mpr ⟨by decide, NameOK_all _ (nameOK_of_isNCName hq.1)⟩)

theorem qualify_inj {tbl : NsTable} (ht : TableOK tbl) (q1 q2 : QName) (h1 : QNameOK q1) (c1 : Covered tbl q1)
    (h2 : QNameOK q2) (c2 : Covered tbl q2) (h : qualify tbl q1 = qualify tbl q2) : q1 = q2 := by
  have he : EnvFor tbl (envOf tbl ++ []) := envFor_envOf ht []
  have r1 := resolveName_qualify ht he q1 h1 c1
  have r2 := resolveName_qualify ht he q2 h2 c2
  rw [h, r2] at r1
  exact (Option.some.inj r1).symm

theorem nodup_rawAttrs {tbl : NsTable} (ht : TableOK tbl) (as : List (QName × Str)) (ha : AttrsQOK tbl as) :
    ((rawAttrs tbl as).map (·.1)).Nodup := by
  rw [rawAttrs_eq_map, List.map_map]
  exact nodup_map_of_nodup_map _ (·.1) as ((nodupQ_iff as).mp ha.1) fun a1 ha1 a2 ha2 heq =>
    qualify_inj ht a1.1 a2.1 (ha.qnameOK ha1) (ha.covered ha1) (ha.qnameOK ha2) (ha.covered ha2) heq

theorem attrsOK_rawAttrs {tbl : NsTable} (ht : TableOK tbl) (as : List (QName × Str)) (ha : AttrsQOK tbl as) :
    AttrsOK (rawAttrs tbl as) := by
  rw [rawAttrs_eq_map]
  exact List.forall_mem_map.mpr fun x hx => ⟨NameOK_qualify ht x.1 (ha.qnameOK hx) (ha.covered hx), ha.strOK hx⟩

mutual
theorem WFN_rawOf {tbl : NsTable} (ht : TableOK tbl) (u : Node) (hu : TreeOK tbl u) : WFN (rawOf tbl u) := by
  cases u with
  | text s => exact hu
  | cdata s => exact hu
  | elem q attrs kids =>
    obtain ⟨hq, hc, ha, hk⟩ := hu
    exact ⟨NameOK_qualify ht q hq hc, attrsOK_rawAttrs ht attrs ha,
      (nodupNames_iff _).mpr (nodup_rawAttrs ht attrs ha), WFF_rawOfF ht kids hk⟩
theorem WFF_rawOfF {tbl : NsTable} (ht : TableOK tbl) (f : Forest) (hf : ForestOK tbl f) : WFF (rawOfF tbl f) := by
  cases f with
  | nil => trivial
  | cons h t => exact ⟨WFN_rawOf ht h hf.1, WFF_rawOfF ht t hf.2⟩
end

theorem isNameChar_xmlns_colon : ∀ c ∈ XMLNS_COLON, isNameChar c = true := by decide

theorem WFN_rawRoot {tbl : NsTable} (ht : TableOK tbl) (q : QName) (attrs : List (QName × Str)) (kids : Forest)
    (hu : TreeOK tbl (.elem q attrs kids)) : WFN (rawRoot tbl (.elem q attrs kids)) := by
  obtain ⟨hq, hc, ha, hk⟩ := hu
  refine ⟨NameOK_qualify ht q hq hc, ?_, ?_, WFF_rawOfF ht kids hk⟩
  · refine List.forall_mem_append.mpr ⟨?_, attrsOK_rawAttrs ht attrs ha⟩
    rw [nsDecls_eq_map]
    exact List.forall_mem_map.mpr fun e he =>
      ⟨NameOK_append (by decide) (NameOK_all _ (nameOK_of_isNCName (ht.2 e he).1)), (ht.2 e he).2.2.2⟩
  · -- no two attributes with the same written name
    rw [nodupNames_iff, List.map_append, List.nodup_append]
    refine ⟨?_, nodup_rawAttrs ht attrs ha, ?_⟩
    · rw [nsDecls_eq_map, List.map_map]
      exact nodup_map_of_nodup_map _ (·.2) tbl ht.1 fun _ _ _ _ h => List.append_cancel_left h
    · -- a written name does not begin with `xmlns:`
      simp only [nsDecls_eq_map, rawAttrs_eq_map, List.map_map, List.mem_map, Function.comp_apply]
      rintro _ ⟨e, _, rfl⟩ _ ⟨a, ha', rfl⟩ heq
      have := (not_decl_qualify ht a.1 (ha.qnameOK ha') (ha.covered ha')).1
      rw [← heq, dropPrefix?_append] at this
      cases this

theorem hu_lt (c : Nat) (h : c < 0x110000) : hu c < 0x110000 := by
  unfold hu; split
  · decide
  · exact h

theorem strOK_map_hu (s : Str) (h : StrOK s) : StrOK (s.map hu) :=
  List.forall_mem_map.mpr fun c hc => hu_lt c (h c hc)

theorem strOK_append {a b : Str} (ha : StrOK a) (hb : StrOK b) : StrOK (a ++ b) :=
  List.forall_mem_append.mpr ⟨ha, hb⟩

theorem attrsQOK_huAttrsQ {tbl : NsTable} (as : List (QName × Str)) (h : AttrsQOK tbl as) :
    AttrsQOK tbl (huAttrsQ as) := by
  rw [huAttrsQ_eq_map]
  exact ⟨(nodupQ_iff _).mpr (by rw [List.map_map]; exact (nodupQ_iff _).mp h.1),
    List.forall_mem_map.mpr fun x hx => ⟨h.qnameOK (a := x) hx, h.covered (a := x) hx, strOK_map_hu _ (h.strOK hx)⟩⟩

theorem forestOK_flushT {tbl : NsTable} (acc : Str) (f : Forest) (ha : StrOK acc) (hf : ForestOK tbl f) :
    ForestOK tbl (flushT acc f) := by
  unfold flushT; split
  · exact hf
  · exact ⟨ha, hf⟩

theorem forestOK_canonTF {tbl : NsTable} (acc : Str) (f : Forest) (ha : StrOK acc) (hf : ForestOK tbl f) :
    ForestOK tbl (canonTF acc f) := by
  fun_induction canonTF acc f with
  | case1 acc => exact forestOK_flushT acc .nil ha trivial
  | case2 acc s t ih | case3 acc s t ih => exact ih (strOK_append ha (strOK_map_hu s hf.1)) hf.2
  | case4 acc q attrs kids t ih1 ih2 =>
    obtain ⟨⟨hq, hc, hat, hk⟩, ht⟩ := hf
    have hnil : StrOK ([] : Str) := by intro c hc; cases hc
    exact forestOK_flushT acc _ ha ⟨⟨hq, hc, attrsQOK_huAttrsQ attrs hat, ih1 hnil hk⟩, ih2 hnil ht⟩

theorem treeOK_canonT {tbl : NsTable} (q : QName) (attrs : List (QName × Str)) (kids : Forest)
    (h : TreeOK tbl (.elem q attrs kids)) : TreeOK tbl (canonT (.elem q attrs kids)) := by
  obtain ⟨hq, hc, ha, hk⟩ := h
  exact ⟨hq, hc, attrsQOK_huAttrsQ attrs ha, forestOK_canonTF [] kids (by intro c hc; cases hc) hk⟩

/-- **print/parse round trip** (the core of C01, C02, C14): for every admissible table and every tree covered by it,
    the emitted stream is accepted by the reference parser, which returns the canonical form of the tree. -/
theorem parseDoc_render (tbl : NsTable) (q : QName) (attrs : List (QName × Str)) (kids : Forest)
    (ht : TableOK tbl) (hcl : NsClean tbl) (hu : TreeOK tbl (.elem q attrs kids)) :
    parseDoc (render tbl (.elem q attrs kids)) = some (canonT (.elem q attrs kids)) := by
  have hwf := WFN_rawRoot ht q attrs kids hu
  have hlex := parseElem_print ((printNode (rawRoot tbl (.elem q attrs kids)) ++ []).length + 1)
    (qualify tbl q) (nsDecls tbl ++ rawAttrs tbl attrs) (rawOfF tbl kids) [] hwf (by simp [rawRoot])
  unfold parseDoc parseRawDoc render
  rw [dropPrefix?_append]
  simp only [rawRoot, List.append_nil] at hlex ⊢
  rw [hlex, canon_rawRoot tbl hcl]
  exact resolve_rawRoot ht q (huAttrsQ attrs) (canonTF [] kids) (treeOK_canonT q attrs kids hu)

/-- two names of one namespace are told apart by their local parts (comparing those is all `decide` has to do) -/
theorem QName.ne_of_loc {a b : QName} (h : a.loc ≠ b.loc) : a ≠ b := fun e => h (congrArg QName.loc e)

/-- children that are all empty elements `<q …/>`, one per attribute list (below a root without attributes: the shape
    of a manifest and of a block of field declarations) -/
def leaves (q : QName) : List (List (QName × Str)) → Forest
  | [] => .nil
  | as :: r => .cons (.elem q as .nil) (leaves q r)

theorem forestOK_leaves {tbl : NsTable} {q : QName} (hq : QNameOK q ∧ Covered tbl q) (l : List (List (QName × Str)))
    (hl : ∀ as ∈ l, AttrsQOK tbl as) : ForestOK tbl (leaves q l) := by
  induction l with
  | nil => trivial
  | cons as r ih =>
    exact ⟨⟨hq.1, hq.2, hl as (by simp), trivial⟩, ih fun as' h => hl as' (by simp [h])⟩

theorem canonTF_leaves (q : QName) (l : List (List (QName × Str))) :
    canonTF [] (leaves q l) = leaves q (l.map huAttrsQ) := by
  induction l with
  | nil => rfl
  | cons as r ih => simp [leaves, canonTF, flushT, ih]

/-- the parser returns the same shape, every attribute value through the writer's filter -/
theorem parseDoc_render_leaves (tbl : NsTable) (qRoot q : QName) (l : List (List (QName × Str)))
    (ht : TableOK tbl) (hcl : NsClean tbl) (hroot : QNameOK qRoot ∧ Covered tbl qRoot) (hq : QNameOK q ∧ Covered tbl q)
    (hl : ∀ as ∈ l, AttrsQOK tbl as) :
    parseDoc (render tbl (.elem qRoot [] (leaves q l))) = some (.elem qRoot [] (leaves q (l.map huAttrsQ))) := by
  rw [parseDoc_render tbl qRoot [] _ ht hcl ⟨hroot.1, hroot.2, ⟨rfl, by simp⟩, forestOK_leaves hq l hl⟩]
  simp [canonT, huAttrsQ, canonTF_leaves]

end OdfModel.Xml
