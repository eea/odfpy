/-
  Namespace round trip: resolving the prefixes the writer assigned (from the process-wide table, declared in full on
  the root) gives back the expanded names of the in-memory tree.
-/
import OdfModel.Xml.RoundTrip
namespace OdfModel.Xml
open OdfModel OdfModel.Spec

def XMLNS_NAME : Str := [120, 109, 108, 110, 115]   -- xmlns

/-- the invariant of the process-wide namespace table (see `Props.C14.tableOK_reachable`) -/
def TableOK (tbl : NsTable) : Prop :=
  (tbl.map (·.2)).Nodup ∧
  ∀ e ∈ tbl, isNCName e.2 = true ∧ e.2 ≠ XMLNS_NAME ∧ e.1 ≠ [] ∧ StrOK e.1

/-- a qualified name the writer can write: NCName local part, and not the unqualified name `xmlns` -/
def QNameOK (q : QName) : Prop := isNCName q.loc = true ∧ (q.ns = [] → q.loc ≠ XMLNS_NAME)

/-- the namespace of `q` is the empty one or known to the table -/
def Covered (tbl : NsTable) (q : QName) : Prop := q.ns = [] ∨ ∃ p, lookupNs tbl q.ns = some p

def AttrsQOK (tbl : NsTable) (as : List (QName × Str)) : Prop :=
  nodupQ as = true ∧ ∀ a ∈ as, QNameOK a.1 ∧ Covered tbl a.1 ∧ StrOK a.2

mutual
/-- the trees the round trip is proved for, w.r.t. the table of their process: names with an ASCII NCName local part and a
    namespace the table knows (or none), no unqualified `xmlns`, distinct attribute names, strings of real code points.
    A loaded foreign element with a non-ASCII local name is outside. -/
def TreeOK (tbl : NsTable) : Node → Prop
  | .text s => StrOK s
  | .cdata s => StrOK s
  | .elem q attrs kids => QNameOK q ∧ Covered tbl q ∧ AttrsQOK tbl attrs ∧ ForestOK tbl kids
def ForestOK (tbl : NsTable) : Forest → Prop
  | .nil => True
  | .cons h t => TreeOK tbl h ∧ ForestOK tbl t
end

theorem AttrsQOK.qnameOK {tbl : NsTable} {as : List (QName × Str)} (h : AttrsQOK tbl as) {a : QName × Str} (ha : a ∈ as) :
    QNameOK a.1 := (h.2 a ha).1

theorem AttrsQOK.covered {tbl : NsTable} {as : List (QName × Str)} (h : AttrsQOK tbl as) {a : QName × Str} (ha : a ∈ as) :
    Covered tbl a.1 := (h.2 a ha).2.1

theorem AttrsQOK.strOK {tbl : NsTable} {as : List (QName × Str)} (h : AttrsQOK tbl as) {a : QName × Str} (ha : a ∈ as) :
    StrOK a.2 := (h.2 a ha).2.2

def envOf (tbl : NsTable) : NsEnv := tbl.map (fun e => (e.2, e.1))

/-- `env` resolves every prefix of the table to its namespace -/
def EnvFor (tbl : NsTable) (env : NsEnv) : Prop :=
  ∀ ns p, lookupNs tbl ns = some p → lookupPrefix env p = some ns

theorem lookupNs_mem {tbl : NsTable} {ns p : Str} (h : lookupNs tbl ns = some p) : (ns, p) ∈ tbl := by
  fun_induction lookupNs tbl ns with
  | case1 => cases h
  | case2 q r => cases h; exact List.mem_cons_self
  | case3 n q r hn ih => exact List.mem_cons_of_mem _ (ih h)

theorem lookupNs_append (a b : NsTable) (ns : Str) :
    lookupNs (a ++ b) ns = (lookupNs a ns).or (lookupNs b ns) := by
  fun_induction lookupNs a ns with
  | case1 => rfl
  | case2 q r => simp [lookupNs]
  | case3 n q r hn ih => simpa [lookupNs, hn] using ih

theorem lookupNs_isSome {tbl : NsTable} {ns : Str} : (lookupNs tbl ns).isSome = true ↔ ns ∈ tbl.map (·.1) := by
  fun_induction lookupNs tbl ns with
  | case1 => simp
  | case2 q r => simp
  | case3 n q r hn ih => simp [ih, Ne.symm hn]

theorem lookupNs_of_mem_nodup {d : NsTable} (hk : (d.map (·.1)).Nodup) {ns p : Str} (h : (ns, p) ∈ d) :
    lookupNs d ns = some p := by
  obtain ⟨p', hl⟩ := Option.isSome_iff_exists.mp (lookupNs_isSome.mpr (List.mem_map.mpr ⟨_, h, rfl⟩))
  rw [hl]
  exact congrArg (fun e => some e.2) (inj_on_of_nodup_map hk _ (lookupNs_mem hl) _ h rfl)

theorem nodupQ_iff (l : List (QName × Str)) : nodupQ l = true ↔ (l.map (·.1)).Nodup := by
  induction l with
  | nil => simp [nodupQ]
  | cons a r ih =>
    simp only [nodupQ, ih, Bool.and_eq_true, Bool.not_eq_true', ← Bool.not_eq_true, any_fst_beq, List.map_cons,
      List.nodup_cons]

theorem rawAttrs_eq_map (tbl : NsTable) (as : List (QName × Str)) :
    rawAttrs tbl as = as.map (fun a => (qualify tbl a.1, a.2)) := by
  induction as with
  | nil => rfl
  | cons a r ih => simp [rawAttrs, ih]

theorem nsDecls_eq_map (tbl : NsTable) : nsDecls tbl = tbl.map (fun e => (XMLNS_COLON ++ e.2, e.1)) := by
  induction tbl with
  | nil => rfl
  | cons e r ih => simp [nsDecls, ih]

theorem lookupPrefix_eq (env : NsEnv) (p : Str) : lookupPrefix env p = lookupNs env p := by
  induction env with
  | nil => rfl
  | cons e r ih => simp only [lookupPrefix, lookupNs, ih]

theorem envFor_envOf {tbl : NsTable} (h : TableOK tbl) (env0 : NsEnv) : EnvFor tbl (envOf tbl ++ env0) := by
  intro ns p hl
  rw [lookupPrefix_eq, lookupNs_append, lookupNs_of_mem_nodup (d := envOf tbl) (by simpa [envOf, Function.comp_def] using h.1)
    (List.mem_map.mpr ⟨_, lookupNs_mem hl, rfl⟩)]
  rfl

theorem not_mem_58_of_isNCName {n : Str} (h : isNCName n = true) : 58 ∉ n := by
  simp only [isNCName, Bool.and_eq_true, Bool.not_eq_true', List.contains_eq_mem, decide_eq_false_iff_not] at h
  exact h.2

theorem nameOK_of_isNCName {n : Str} (h : isNCName n = true) : NameOK n = true := by
  simp only [isNCName, Bool.and_eq_true] at h; exact h.1

theorem NameOK_append {a b : Str} (ha : NameOK a = true) (hb : ∀ c ∈ b, isNameChar c = true) :
    NameOK (a ++ b) = true := by
  cases a with
  | nil => simp [NameOK] at ha
  | cons c r =>
    simp only [NameOK, Bool.and_eq_true, List.all_eq_true, List.cons_append] at ha ⊢
    exact ⟨ha.1, List.forall_mem_append.mpr ⟨ha.2, hb⟩⟩

theorem ne_nil_of_NameOK {n : Str} (h : NameOK n = true) : n ≠ [] := by
  intro hn; subst hn; simp [NameOK] at h

theorem takeWhile_ne58 (p l : Str) (hp : 58 ∉ p) :
    (p ++ 58 :: l).takeWhile (· != 58) = p ∧ (p ++ 58 :: l).dropWhile (· != 58) = 58 :: l := by
  have h : ∀ c ∈ p, (c != 58) = true := fun c hc => bne_iff_ne.mpr fun e => hp (e ▸ hc)
  simp [List.takeWhile_append_of_pos h, List.dropWhile_append_of_pos h]

theorem splitQName_prefixed (p l : Str) (hp : 58 ∉ p) : splitQName (p ++ 58 :: l) = (p, l) := by
  have h := takeWhile_ne58 p l hp
  unfold splitQName
  have hc : (p ++ 58 :: l).contains 58 = true := by simp
  simp only [hc, if_true, h.1, h.2, List.drop_succ_cons, List.drop_zero]

theorem splitQName_plain (l : Str) (hl : 58 ∉ l) : splitQName l = ([], l) := by
  unfold splitQName
  have : l.contains 58 = false := by simp [hl]
  rw [this]; rfl

theorem prefixOf_of_lookup {tbl : NsTable} {ns p : Str} (hns : ns ≠ []) (h : lookupNs tbl ns = some p) :
    prefixOf tbl ns = p := by
  unfold prefixOf
  simp [List.isEmpty_eq_false_iff.mpr hns, h]

theorem qualify_plain (tbl : NsTable) (q : QName) (h : q.ns = []) : qualify tbl q = q.loc := by
  simp [qualify, prefixOf, h]

/-- **the shape of a written name**: the local name alone, or `prefix:local` with the prefix the table has -/
theorem qualify_cases {tbl : NsTable} (ht : TableOK tbl) (q : QName) (hc : Covered tbl q) :
    (q.ns = [] ∧ qualify tbl q = q.loc) ∨
    ∃ p, lookupNs tbl q.ns = some p ∧ qualify tbl q = p ++ 58 :: q.loc ∧ isNCName p = true ∧ p ≠ XMLNS_NAME := by
  by_cases hns : q.ns = []
  · exact .inl ⟨hns, qualify_plain tbl q hns⟩
  · obtain ⟨p, h⟩ := hc.resolve_left hns
    have hm := ht.2 _ (lookupNs_mem h)
    have hp : p ≠ [] := ne_nil_of_NameOK (nameOK_of_isNCName hm.1)
    exact .inr ⟨p, h, by simp [qualify, prefixOf_of_lookup hns h, List.isEmpty_eq_false_iff.mpr hp], hm.1, hm.2.1⟩

theorem resolveName_qualify {tbl : NsTable} (ht : TableOK tbl) {env : NsEnv} (he : EnvFor tbl env) (q : QName)
    (hq : QNameOK q) (hc : Covered tbl q) : resolveName env (qualify tbl q) = some q := by
  have hl := not_mem_58_of_isNCName hq.1
  unfold resolveName
  rcases qualify_cases ht q hc with ⟨hns, hqual⟩ | ⟨p, hp, hqual, hpnc, _⟩
  · rw [hqual, splitQName_plain _ hl]
    simp only [List.isEmpty_nil, if_true, hq.1]
    exact hns ▸ rfl
  · rw [hqual, splitQName_prefixed p q.loc (not_mem_58_of_isNCName hpnc)]
    have hpne : p ≠ [] := ne_nil_of_NameOK (nameOK_of_isNCName hpnc)
    simp only [List.isEmpty_eq_false_iff.mpr hpne, Bool.false_eq_true, if_false, hq.1, Bool.not_true, he _ _ hp]

/-- a written element/attribute name is never mistaken for a namespace declaration -/
theorem not_decl_qualify {tbl : NsTable} (ht : TableOK tbl) (q : QName) (hq : QNameOK q) (hc : Covered tbl q) :
    dropPrefix? XMLNS_COLON (qualify tbl q) = none ∧ qualify tbl q ≠ XMLNS_NAME := by
  rcases qualify_cases ht q hc with ⟨hns, hqual⟩ | ⟨p, hp, hqual, hpnc, hpx⟩
  · -- a local name has no colon
    rw [hqual]
    refine ⟨Option.eq_none_iff_forall_ne_some.mpr fun r hd => not_mem_58_of_isNCName hq.1 ?_, hq.2 hns⟩
    rw [dropPrefix?_eq_some hd]
    simp [XMLNS_COLON]
  · -- what stands before the first colon is the prefix, and that is not `xmlns`
    rw [hqual]
    refine ⟨Option.eq_none_iff_forall_ne_some.mpr fun r hd => hpx ?_, fun h => ?_⟩
    · have h1 := (takeWhile_ne58 p q.loc (not_mem_58_of_isNCName hpnc)).1
      rw [dropPrefix?_eq_some hd] at h1
      simpa [XMLNS_COLON, XMLNS_NAME] using h1.symm
    · have : 58 ∈ p ++ 58 :: q.loc := by simp
      rw [h] at this
      simp [XMLNS_NAME] at this

end OdfModel.Xml
