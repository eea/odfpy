/-
  The lexical round trip: the reference parser applied to what the writer wrote returns the canonical form of the
  raw tree — same tags and attribute names, attribute values and character data filtered character by character
  through `hu` (the library's replacement of unrepresentable characters), adjacent text/CDATA merged, empty
  character data dropped.
-/
import OdfModel.Xml.ContentLemmas
namespace OdfModel.Xml
open OdfModel OdfModel.Spec

/-- canonical form of a child list, with `acc` = character data pending from the left -/
def canonF (acc : Str) : RForest → RForest
  | .nil => flush acc .nil
  | .cons (.text s) t => canonF (acc ++ s.map hu) t
  | .cons (.cdata s) t => canonF (acc ++ s.map hu) t
  | .cons (.elem tag attrs kids) t => flush acc (.cons (.elem tag (huAttrs attrs) (canonF [] kids)) (canonF [] t))

mutual
/-- well-formedness of the raw tree: what the writer needs in order to produce XML at all -/
def WFN : RNode → Prop
  | .text s => StrOK s
  | .cdata s => StrOK s
  | .elem tag attrs kids => NameOK tag = true ∧ AttrsOK attrs ∧ nodupNames attrs = true ∧ WFF kids
def WFF : RForest → Prop
  | .nil => True
  | .cons h t => WFN h ∧ WFF t
end

theorem textToXml_eq (s : Str) : textToXml s = (s.map hu).flatMap (encBy (entTable textEnts)) := by
  unfold textToXml
  cases s with
  | nil => rfl
  | cons c r => rw [if_neg (by simp)]; exact sanitize_eq _ textEnts (by decide)

/-- what follows the name in a start tag does not continue the name -/
theorem printAttrs_head (as : List (Str × Str)) (e : Bool) (R : Str) :
    ∀ c, (printAttrs as ++ tagEnd e ++ R).head? = some c → isNameChar c = false := by
  cases as with
  | nil => cases e <;> simp [printAttrs, tagEnd] <;> decide
  | cons a r => simp [printAttrs]; decide

/-- an element as written: start tag, then nothing more (no children) or content and end tag -/
theorem printNode_elem (tag : Str) (attrs : List (Str × Str)) (kids : RForest) (X : Str) :
    printNode (.elem tag attrs kids) ++ X =
      60 :: (tag ++ (printAttrs attrs ++ tagEnd (kids matches .nil) ++
        (if kids matches .nil then X else printForest kids ++ 60 :: 47 :: (tag ++ 62 :: X)))) := by
  cases kids <;> simp [printNode, tagEnd]

theorem pf_elem (f : Nat) (acc tag : Str) (attrs : List (Str × Str)) (kids : RForest) (R : Str)
    (h : NameOK tag = true) :
    parseForest (f + 1) false acc (printNode (.elem tag attrs kids) ++ R) =
      match parseElem f (printNode (.elem tag attrs kids) ++ R) with
      | none => none
      | some (e, r1) => match parseForest f false [] r1 with
        | none => none
        | some (ff, r2) => some (flush acc (.cons e ff), r2) := by
  -- a name does not begin with `/` or `!`: this is neither an end tag nor a CDATA section
  obtain ⟨c, r, rfl⟩ : ∃ c r, tag = c :: r := by cases tag <;> simp [NameOK] at h ⊢
  have hno : isNameStart 47 = false ∧ isNameStart 33 = false := by decide
  have hs : isNameStart c = true := by simp [NameOK] at h; exact h.1
  have hc : c ≠ 47 ∧ c ≠ 33 := by constructor <;> rintro rfl <;> simp [hno] at hs
  rw [printNode_elem, List.cons_append, parseForest]
  simp only [dropPrefix?, CDO, Ne.symm hc.1, Ne.symm hc.2, if_true, if_false]
  cases parseElem f _ <;> rfl

/-- an element whose children read back reads back (with the children as a hypothesis, `parseForest_print` below needs
    no mutual induction) -/
theorem parseElem_of_kids (fuel : Nat) (tag : Str) (attrs : List (Str × Str)) (kids : RForest) (X : Str)
    (hname : NameOK tag = true) (hattrs : AttrsOK attrs) (hnodup : nodupNames attrs = true)
    (hk : ∀ fuel X, (printForest kids ++ 60 :: 47 :: X).length + 1 ≤ fuel →
      parseForest fuel false [] (printForest kids ++ 60 :: 47 :: X) = some (canonF [] kids, 60 :: 47 :: X))
    (hf : (printNode (.elem tag attrs kids) ++ X).length ≤ fuel) :
    parseElem fuel (printNode (.elem tag attrs kids) ++ X) =
      some (.elem tag (huAttrs attrs) (canonF [] kids), X) := by
  rw [printNode_elem] at hf ⊢
  obtain ⟨f, rfl⟩ : ∃ f, fuel = f + 1 := ⟨fuel - 1, by simp at hf; omega⟩
  -- the start tag, up to and including its `>` or `/>`
  rw [parseElem]
  simp only [takeName_append tag _ (NameOK_all tag hname) (printAttrs_head attrs _ _), hname, ne_eq, not_true_eq_false,
    if_false, Bool.not_true, Bool.false_eq_true]
  rw [parseAttrs_print _ _ attrs _ (Nat.lt_succ_self _) hattrs]
  simp only [nodupNames_huAttrs, hnodup, Bool.not_true, Bool.false_eq_true, if_false]
  -- nothing more, or content and end tag
  cases kids with
  | nil => rfl
  | cons h t =>
    simp only [Bool.false_eq_true, if_false] at hf ⊢
    rw [hk f (tag ++ 62 :: X) (by simp [tagEnd] at hf ⊢; omega)]
    simp [parseClose_print]

/-- **lexical round trip, content**: up to the end tag of the enclosing element -/
theorem parseForest_print (fuel : Nat) (acc : Str) (f : RForest) (X : Str)
    (hwf : WFF f)
    (hf : (printForest f ++ 60 :: 47 :: X).length + 1 ≤ fuel) :
    parseForest fuel false acc (printForest f ++ 60 :: 47 :: X) = some (canonF acc f, 60 :: 47 :: X) := by
  -- the cases of `canonF` are the cases of the content loop
  fun_induction canonF acc f generalizing fuel X with
  | case1 acc =>
    obtain ⟨f', rfl⟩ : ∃ f', fuel = f' + 1 := ⟨fuel - 1, by omega⟩
    exact pf_close f' acc X
  | case2 acc s t ih =>
    simp only [printForest, printNode, textToXml_eq, List.append_assoc] at hf ⊢
    obtain ⟨fuel', hf', heq⟩ := pf_text (E := entTable textEnts) (by decide) (printForest t ++ 60 :: 47 :: X) _ acc fuel
      (isXmlChar_map_hu hwf.1) hf
    rw [heq]
    exact ih fuel' X hwf.2 hf'
  | case3 acc s t ih =>
    simp only [printForest, printNode, List.append_assoc] at hf ⊢
    obtain ⟨fuel', hf', heq⟩ := pf_cdata (printForest t ++ 60 :: 47 :: X) s acc fuel hwf.1 hf
    rw [heq]
    exact ih fuel' X hwf.2 hf'
  | case4 acc tag attrs kids t ih1 ih2 =>
    obtain ⟨⟨hname, hattrs, hnodup, hkids⟩, ht⟩ := hwf
    obtain ⟨f', rfl⟩ : ∃ f', fuel = f' + 1 := ⟨fuel - 1, by omega⟩
    simp only [printForest, List.append_assoc] at hf ⊢
    have hlen : (printForest t ++ 60 :: 47 :: X).length + 1 ≤ f' := by
      cases kids <;> simp [printNode] at hf ⊢ <;> omega
    rw [pf_elem f' acc tag attrs kids _ hname, parseElem_of_kids f' tag attrs kids (printForest t ++ 60 :: 47 :: X)
      hname hattrs hnodup (fun fuel X => ih1 fuel X hkids) (by omega)]
    simp only [ih2 f' X ht hlen]

/-- **lexical round trip, element**: for every raw element and every continuation `X` -/
theorem parseElem_print (fuel : Nat) (tag : Str) (attrs : List (Str × Str)) (kids : RForest) (X : Str)
    (hwf : WFN (.elem tag attrs kids))
    (hf : (printNode (.elem tag attrs kids) ++ X).length ≤ fuel) :
    parseElem fuel (printNode (.elem tag attrs kids) ++ X) =
      some (.elem tag (huAttrs attrs) (canonF [] kids), X) := by
  obtain ⟨hname, hattrs, hnodup, hkids⟩ := hwf
  exact parseElem_of_kids fuel tag attrs kids X hname hattrs hnodup
    (fun fuel X => parseForest_print fuel [] kids X hkids) hf

end OdfModel.Xml
