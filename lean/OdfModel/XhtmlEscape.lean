/-
  OdfModel.XhtmlEscape — what xml.sax.saxutils.escape / quoteattr (as used by odf2xhtml.py) guarantee (property C18):
  per-character views, "no raw `<`", and the round trips: text through the reference decoder `decText` defined here,
  attribute values through `Spec.parseAttVal`.
-/
import OdfModel.Xhtml
import OdfModel.Xml.AttrLemmas
import OdfModel.Xml.ContentLemmas
namespace OdfModel.Xhtml
open OdfModel OdfModel.Xml OdfModel.Spec

/-- the replacements of saxutils' `escape`, in the order it makes them -/
def sxText : List (Cp × Str) := [(38, AMP), (62, GT), (60, LT)]

/-- the replacements of saxutils' `quoteattr` before the quotes are chosen -/
def sxAttr : List (Cp × Str) := sxText ++ [(10, R10), (13, R13), (9, R9)]

theorem sxEscape_eq (s : Str) : sxEscape s = s.flatMap (encBy sxText) :=
  replaceAll_eq_flatMap (es := sxText) (by decide) s

theorem attrBody_eq (s : Str) :
    replace1 9 R9 (replace1 13 R13 (replace1 10 R10 (sxEscape s))) = s.flatMap (encBy sxAttr) := by
  rw [← replaceAll_eq_flatMap (es := sxAttr) (by decide)]
  -- `rfl` closes this too, but the elaborator is very slow on the six nested calls (it is fine for the three of `sxEscape`)
  simp only [replaceAll, sxAttr, sxText, List.cons_append, List.nil_append, List.foldl_cons, List.foldl_nil, sxEscape]

theorem not_mem_encBy {E : List (Cp × Str)} (hE : ∀ e ∈ E, e ∈ allRefs) {k : Cp} (hk : k ∈ keys E)
    (hr : ∀ e ∈ allRefs, k ∉ e.2) (s : Str) : k ∉ s.flatMap (encBy E) := by
  intro hm
  obtain ⟨d, _, hd⟩ := List.mem_flatMap.mp hm
  rcases encBy_cases E d with ⟨h, hn⟩ | h
  · rw [h] at hd; exact hn (List.mem_singleton.mp hd ▸ hk)
  · exact hr _ (hE _ h) hd

theorem sxEscape_no_markup (s : Str) : 60 ∉ sxEscape s ∧ 62 ∉ sxEscape s := by
  rw [sxEscape_eq]
  exact ⟨not_mem_encBy (by decide) (by decide) (by decide) s,
    not_mem_encBy (by decide) (by decide) (by decide) s⟩

/-- reference decoder for character data without markup: the five predefined entities and the three numeric references
    of `Spec.parseRef`; a raw `<`, or a `&` that starts nothing known, is refused -/
def decText : Nat → Str → Option Str
  | 0, _ => none
  | _+1, [] => some []
  | fuel+1, c :: r =>
    if c = 38 then
      match parseRef r with
      | none => none
      | some (d, r1) => (decText fuel r1).map (d :: ·)
    else if c = 60 then none
    else (decText fuel r).map (c :: ·)

theorem decText_escC (fuel : Nat) (c : Cp) (Y : Str) :
    decText (fuel + 1) (encBy sxText c ++ Y) = (decText fuel Y).map (c :: ·) :=
  encBy_read (E := sxText) (by decide) (decText (fuel + 1)) (fun Y => (decText fuel Y).map (c :: ·)) c
    (fun hn Y => by
      have h38 : c ≠ 38 := fun e => hn (e ▸ by decide)
      have h60 : c ≠ 60 := fun e => hn (e ▸ by decide)
      simp [decText, h38, h60])
    (fun r Y h => by simp [decText, h]) Y

/-- **text round trip**: decoding the escaped text gives the text back (so every `&` in it starts one of `&amp;` `&lt;` `&gt;`) -/
theorem decText_sxEscape (s : Str) : decText (s.length + 1) (sxEscape s) = some s := by
  rw [sxEscape_eq]
  induction s with
  | nil => simp [decText]
  | cons c r ih =>
    simp only [List.flatMap_cons, List.length_cons]
    rw [decText_escC, ih]; rfl

/-- saxutils and odfpy replace the same characters by the same references; their tables differ only in the order of
    `<` and `>` -/
theorem encBy_sxAttr (c : Cp) : encBy sxAttr c = encBy (entTable attrEnts) c :=
  congrArg (fun r => if c = 38 then AMP else r) (encBy_swap (by decide) GT LT attrEnts c)

theorem map_hu_unfiltered {s : Str} (h : ∀ c ∈ s, filtered c = false) : s.map hu = s :=
  map_eq_self fun c hc => by simp [hu, h c hc]

theorem sxQuoteattr_eq_quoteattr (s : Str) (h : ∀ c ∈ s, filtered c = false) : sxQuoteattr s = quoteattr s := by
  -- on such a string odfpy's `_sanitize` is the saxutils chain: the filter does nothing and the tables agree
  have hb : sanitize s attrEnts = s.flatMap (encBy sxAttr) := by
    rw [sanitize_eq s attrEnts (by decide), map_hu_unfiltered h]
    exact (flatMap_congr_left fun c _ => encBy_sxAttr c).symm
  unfold sxQuoteattr quoteattr
  simp only [attrBody_eq, hb]

/-- **attribute round trip**: whichever quote `quoteattr` picks, the reference attribute-value parser reads the value back
    and stops exactly behind the closing quote — a quote, `<` or `&` in the value cannot end or break the attribute.
    (For strings of XML characters that odfpy's filter lets through; a loaded document has no others.) -/
theorem attr_roundtrip (v X : Str) (hv : StrOK v) (hf : ∀ c ∈ v, filtered c = false) :
    ∃ q r1, sxQuoteattr v ++ X = q :: r1 ∧ (q = 34 ∨ q = 39) ∧ parseAttVal (r1.length + 1) q r1 = some (v, X) := by
  rw [sxQuoteattr_eq_quoteattr v hf]
  obtain ⟨q, r1, h1, h2, h3⟩ := parseAttVal_quoteattr v X hv
  exact ⟨q, r1, h1, h2, by rw [h3, map_hu_unfiltered hf]⟩

theorem sxQuoteattr_no_lt (v : Str) : 60 ∉ sxQuoteattr v := by
  unfold sxQuoteattr
  simp only [attrBody_eq]
  have h : 60 ∉ v.flatMap (encBy sxAttr) := not_mem_encBy (by decide) (by decide) (by decide) v
  have hq : 60 ∉ replace1 34 QUOT (v.flatMap (encBy sxAttr)) := fun hm => (mem_replace1 hm).elim h (by decide)
  split
  · split
    · simp [hq]
    · simp [h]
  · simp [h]

/-- the same token with every document-derived string (text, attribute values) emptied; tags, attribute names and the
    converter's own constants stay -/
def shape : Tok → Tok
  | .otag t a b => .otag t (a.map (fun kv => (kv.1, []))) b
  | .ctag t b => .ctag t b
  | .etag t a => .etag t (a.map (fun kv => (kv.1, [])))
  | .text _ => .text []
  | .raw r => .raw r

theorem count_lt_renderAttr (kv : Str × Str) : (renderAttr kv).count 60 = kv.1.count 60 := by
  simp [renderAttr, List.count_append, List.count_eq_zero.mpr (sxQuoteattr_no_lt kv.2)]

theorem count_lt_renderAttrs (a : Attrs) : (renderAttrs a).count 60 = (renderAttrs (a.map (fun kv => (kv.1, [])))).count 60 := by
  unfold renderAttrs
  induction a with
  | nil => rfl
  | cons kv r ih =>
    cases r with
    | nil => simp [List.intercalate, count_lt_renderAttr]
    | cons kv2 r2 =>
      simp only [List.map_cons, List.intercalate_cons_cons, List.count_append, count_lt_renderAttr] at ih ⊢
      rw [ih]

theorem count_lt_renderTok (t : Tok) : (renderTok t).count 60 = (renderTok (shape t)).count 60 := by
  cases t with
  | otag t a b =>
    simp only [shape, renderTok, List.count_append, List.isEmpty_map]
    cases a with
    | nil => rfl
    | cons kv r => simp [count_lt_renderAttrs (kv :: r)]
  | ctag t b => rfl
  | etag t a => simp only [shape, renderTok, List.count_append, count_lt_renderAttrs a]
  | text s =>
    simp only [shape, renderTok]
    rw [List.count_eq_zero.mpr (sxEscape_no_markup s).1, List.count_eq_zero.mpr (sxEscape_no_markup []).1]
  | raw r => rfl

/-- `s.replace(']]>', ']]]]><![CDATA[>')`: what generate_stylesheet (odf2xhtml.py as of 22e9516) applies to every selector
    line and every property line before it writes it into the `/*<![CDATA[*/ … /*]]>*/` section -/
def cdataSafe (s : Str) : Str := replCdataEnd s

theorem replCdataEnd_append_lf (a b : Str) : replCdataEnd (a ++ 10 :: b) = replCdataEnd a ++ 10 :: replCdataEnd b := by
  induction a using replCdataEnd.induct with
  | case1 r ih =>
    show replCdataEnd (93 :: 93 :: 62 :: (r ++ 10 :: b)) = _
    rw [replCdataEnd, replCdataEnd, ih]; simp
  | case2 c r hnp ih =>
    -- the line feed is no character of `]]>`: no match in `c :: r ++ LF :: b` that is not one in `c :: r`
    have h2 : ∀ r', c = 93 → r ++ 10 :: b = 93 :: 62 :: r' → False := by
      intro r' hc hr
      rcases r with _ | ⟨x, _ | ⟨y, r2⟩⟩ <;> simp at hr
      exact hnp r2 hc (by simp [hr])
    rw [List.cons_append, replCdataEnd.eq_2 c _ h2, replCdataEnd.eq_2 c r hnp, ih]; rfl
  | case3 => rfl

/-- writing the lines one by one is the same as making the whole text safe: a `]]>` cannot straddle a line end -/
theorem cdataSafe_lines (ls : List Str) (t : Str) :
    ls.flatMap (fun l => cdataSafe (l ++ [10])) ++ cdataSafe t = cdataSafe (ls.flatMap (· ++ [10]) ++ t) := by
  unfold cdataSafe
  induction ls with
  | nil => rfl
  | cons l r ih =>
    rw [List.flatMap_cons, List.flatMap_cons, List.append_assoc, ih]
    simp [replCdataEnd_append_lf, replCdataEnd]

end OdfModel.Xhtml
