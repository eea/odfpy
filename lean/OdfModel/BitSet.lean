/-
  Lists of small numbers as bit sets, for checks that the kernel evaluates.
-/
namespace OdfModel

/-- The members of a list as the bits of one numeral.  `l.contains a` costs the kernel a step of
    structural recursion per element, each time it is asked; `(bitsOf l).testBit a` is two GMP
    operations on a numeral that is computed once. -/
def bitsOf (l : List Nat) : Nat := l.foldl (fun m a => Nat.lor m (Nat.shiftLeft 1 a)) 0

theorem testBit_foldl_lor (l : List Nat) (m a : Nat) :
    (l.foldl (fun m a => Nat.lor m (Nat.shiftLeft 1 a)) m).testBit a = (m.testBit a || l.contains a) := by
  induction l generalizing m with
  | nil => simp
  | cons b rest ih =>
    rw [List.foldl_cons, ih]
    show ((m ||| 1 <<< b).testBit a || rest.contains a) = _
    simp [Nat.testBit_or, Nat.one_shiftLeft, Nat.testBit_two_pow, Bool.or_assoc, eq_comm]

theorem testBit_bitsOf (l : List Nat) (a : Nat) : (bitsOf l).testBit a = l.contains a := by
  rw [bitsOf, testBit_foldl_lor, Nat.zero_testBit, Bool.false_or]

end OdfModel
