/-
  OdfModel.Dom — the node tree of odf/element.py (`Node`, `Childless`, `Element`, `_append_child`) and the
  `draw.StyleRefElement` wrapper (properties C08, C07), statement by statement in the order the Python
  mutates.  The definitions of the calls name the method or statement group they stand for; a method of `Childless`
  is the first guard of its `Node` counterpart.  `Op`, `step`, `runOps` are the edit histories the properties speak of.

  A node is a small natural number chosen by the harness; the heap maps every id to a
  record (ids never used hold the blank record, which behaves like a fresh detached
  element).  Every Python assignment is one field setter.  The operations live in the
  monad `M α = Heap → Heap × Except Err α`: an exception is returned TOGETHER WITH THE
  HEAP AS MUTATED SO FAR (nothing is rolled back), so "a refused call leaves the document
  untouched" is a theorem about the order of checks and assignments (Props/C07.lean), not a
  modelling choice.

  Not modelled here: `ownerDocument` and the document indexes (`_child_attached`,
  `_set_owner`, `remove_from_caches` — OdfModel/DomDoc.lean, property C09; none of them raises),
  DocumentFragment arguments of appendChild, and the `nodeType in _child_node_types` test
  (every modelled kind — element, text, CDATA — is an allowed child type of an element).
  Grammar and attribute-conversion verdicts are abstract parameters (`allowed`,
  `allowsText`, `conv : Except Err Nat`) supplied by the caller: what matters for C07/C08
  is where in the statement order they are consulted.
-/
namespace OdfModel.Dom

abbrev Id := Nat

inductive Kind where
  | elem | text | cdata
deriving DecidableEq, Repr

/-- exception classes; `RecursionError` is raised only by the document layer (DomDoc: subtree deeper
    than the traversal budget); `KeyError` (removeAttribute of an absent attribute) and `Other`
    (protocol misuse: an id that is already in use; IndexError) complete the enum -/
inductive Err where
  | IllegalChild | IllegalText | AttributeError | ValueError | NotFound | Hierarchy | KeyError | Other
  | RecursionError
deriving DecidableEq, Repr

structure NodeRec where
  kind : Kind := .elem
  parent : Option Id := none          -- parentNode
  prev : Option Id := none            -- previousSibling
  next : Option Id := none            -- nextSibling
  kids : List Id := []                -- childNodes
  attrs : List (Nat × Nat) := []      -- attributes: (key token, value token) in dict order
  qn : Nat := 0                       -- qname token (opaque)

/-- the heap: a finite map from ids to records, kept as the list of assignments made so far (latest
    first); an id that was never assigned holds the blank record.  (Data, not a closure: the compiled
    drivers would otherwise re-run whole operations on every lookup.) -/
structure Heap where
  recs : List (Id × NodeRec)

def Heap.get (h : Heap) (i : Id) : NodeRec :=
  match h.recs.lookup i with
  | some r => r
  | none => {}

instance : CoeFun Heap (fun _ => Id → NodeRec) := ⟨Heap.get⟩

def Heap.empty : Heap := ⟨[]⟩

def Heap.set (h : Heap) (i : Id) (r : NodeRec) : Heap := ⟨(i, r) :: h.recs⟩

theorem Heap.set_apply (h : Heap) (i j r) : (h.set i r) j = if j = i then r else h j := by
  simp only [Heap.set, Heap.get, List.lookup]
  by_cases hji : j = i
  · subst hji; simp
  · have : (j == i) = false := by simp [hji]
    simp [this, hji]
@[simp] theorem Heap.set_same (h : Heap) (i r) : (h.set i r) i = r := by simp [Heap.set_apply]
theorem Heap.set_other (h : Heap) (i j r) (hne : j ≠ i) : (h.set i r) j = h j := by simp [Heap.set_apply, hne]
@[simp] theorem Heap.empty_apply (i : Id) : Heap.empty i = {} := rfl

def setKids (h : Heap) (i : Id) (v : List Id) : Heap := h.set i { h i with kids := v }
def setPrev (h : Heap) (i : Id) (v : Option Id) : Heap := h.set i { h i with prev := v }
def setNext (h : Heap) (i : Id) (v : Option Id) : Heap := h.set i { h i with next := v }
def setParent (h : Heap) (i : Id) (v : Option Id) : Heap := h.set i { h i with parent := v }
def setAttrs (h : Heap) (i : Id) (v : List (Nat × Nat)) : Heap := h.set i { h i with attrs := v }
/-- `if o is not None: o.previousSibling = v` -/
def setPrevOpt (h : Heap) (o : Option Id) (v : Option Id) : Heap :=
  match o with | some n => setPrev h n v | none => h
/-- `if o is not None: o.nextSibling = v` -/
def setNextOpt (h : Heap) (o : Option Id) (v : Option Id) : Heap :=
  match o with | some n => setNext h n v | none => h

/-! One record-valued equation per setter: `simp` reads every field of the new heap off these. -/
section fields
variable (h : Heap) (i q : Id)
@[simp] theorem setKids_apply (v) : setKids h i v q = { h q with kids := if q = i then v else (h q).kids } := by
  simp only [setKids, Heap.set_apply]; split <;> simp_all
@[simp] theorem setPrev_apply (v) : setPrev h i v q = { h q with prev := if q = i then v else (h q).prev } := by
  simp only [setPrev, Heap.set_apply]; split <;> simp_all
@[simp] theorem setNext_apply (v) : setNext h i v q = { h q with next := if q = i then v else (h q).next } := by
  simp only [setNext, Heap.set_apply]; split <;> simp_all
@[simp] theorem setParent_apply (v) : setParent h i v q = { h q with parent := if q = i then v else (h q).parent } := by
  simp only [setParent, Heap.set_apply]; split <;> simp_all
@[simp] theorem setAttrs_apply (v) : setAttrs h i v q = { h q with attrs := if q = i then v else (h q).attrs } := by
  simp only [setAttrs, Heap.set_apply]; split <;> simp_all
@[simp] theorem setAttrs_attrs (v) : (setAttrs h i v q).attrs = if q = i then v else (h q).attrs := by simp
variable (o : Option Id)
@[simp] theorem setPrevOpt_apply (v) :
    setPrevOpt h o v q = { h q with prev := if some q = o then v else (h q).prev } := by
  unfold setPrevOpt; split <;> simp
@[simp] theorem setNextOpt_apply (v) :
    setNextOpt h o v q = { h q with next := if some q = o then v else (h q).next } := by
  unfold setNextOpt; split <;> simp
end fields

/-- a Python statement sequence: runs on a heap, returns the heap as mutated so far and
    either a value or the exception that stopped it -/
def M (α : Type) : Type := Heap → Heap × Except Err α

namespace M
protected def pure {α} (a : α) : M α := fun h => (h, .ok a)
protected def bind {α β} (x : M α) (f : α → M β) : M β := fun h =>
  match x h with
  | (h', .ok a) => f a h'
  | (h', .error e) => (h', .error e)      -- the exception propagates; h' is NOT rolled back
instance : Monad M where
  pure := M.pure
  bind := M.bind
def run {α} (x : M α) (h : Heap) : Heap × Except Err α := x h
end M

def raise {α} (e : Err) : M α := fun h => (h, .error e)
def rd {α} (f : Heap → α) : M α := fun h => (h, .ok (f h))
def upd (f : Heap → Heap) : M Unit := fun h => (f h, .ok ())

@[simp] theorem run_pure {α} (a : α) (h : Heap) : (pure a : M α).run h = (h, .ok a) := rfl
@[simp] theorem run_raise {α} (e : Err) (h : Heap) : (raise e : M α).run h = (h, .error e) := rfl
@[simp] theorem run_rd {α} (f : Heap → α) (h : Heap) : (rd f).run h = (h, .ok (f h)) := rfl
@[simp] theorem run_upd (f : Heap → Heap) (h : Heap) : (upd f).run h = (f h, .ok ()) := rfl
theorem run_bind {α β} (x : M α) (f : α → M β) (h : Heap) :
    (x >>= f).run h = match x.run h with
      | (h', .ok a) => (f a).run h'
      | (h', .error e) => (h', .error e) := rfl
@[simp] theorem run_bind_pure {α β} (a : α) (f : α → M β) (h : Heap) :
    ((pure a : M α) >>= f).run h = (f a).run h := rfl
@[simp] theorem run_bind_raise {α β} (e : Err) (f : α → M β) (h : Heap) :
    ((raise e : M α) >>= f).run h = (h, .error e) := rfl
@[simp] theorem run_bind_rd {α β} (g : Heap → α) (f : α → M β) (h : Heap) :
    (rd g >>= f).run h = (f (g h)).run h := rfl
@[simp] theorem run_bind_upd {β} (g : Heap → Heap) (f : Unit → M β) (h : Heap) :
    (upd g >>= f).run h = (f ()).run (g h) := rfl
@[simp] theorem run_ite {α} (c : Prop) [Decidable c] (x y : M α) (h : Heap) :
    (if c then x else y).run h = if c then x.run h else y.run h := by split <;> rfl

/-- `p.removeChild(c)` -/
def removeChild (p c : Id) : M Unit := do
  if (← rd fun h => (h p).kind) ≠ .elem then
    raise .NotFound                                   -- Childless.removeChild
  if !(← rd fun h => decide (c ∈ (h p).kids)) then
    raise .NotFound                                   -- self.childNodes.remove(oldChild) -> ValueError -> NotFoundErr
  upd fun h => setKids h p ((h p).kids.erase c)       -- self.childNodes.remove(oldChild)
  upd fun h => setPrevOpt h (h c).next (h c).prev     -- if oldChild.nextSibling is not None: ….previousSibling = oldChild.previousSibling
  upd fun h => setNextOpt h (h c).prev (h c).next     -- if oldChild.previousSibling is not None: ….nextSibling = oldChild.nextSibling
  upd fun h => setNext h c none                       -- oldChild.nextSibling = oldChild.previousSibling = None
  upd fun h => setPrev h c none                       --   (targets are assigned left to right)
  upd fun h => setParent h c none                     -- oldChild.parentNode = None

/-- `_append_child(p, c)` -/
def appendRaw (p c : Id) : M Unit := do
  match (← rd fun h => (h p).kids.getLast?) with      -- if childNodes:
  | some last =>
    upd fun h => setPrev h c (some last)              --   node.previousSibling = last
    upd fun h => setNext h last (some c)              --   last.nextSibling = node
  | none => pure ()
  upd fun h => setKids h p ((h p).kids ++ [c])        -- childNodes.append(node)
  upd fun h => setParent h c (some p)                 -- node.parentNode = self

/-- `if c.parentNode is not None: c.parentNode.removeChild(c)` -/
def detachIfAttached (c : Id) : M Unit := do
  match (← rd fun h => (h c).parent) with
  | some q => removeChild q c
  | none => pure ()

/-- `p.appendChild(c)` -/
def appendChild (p c : Id) : M Unit := do
  if (← rd fun h => (h p).kind) ≠ .elem then
    raise .Hierarchy                                  -- Childless.appendChild
  detachIfAttached c                                  -- if newChild.parentNode is not None: newChild.parentNode.removeChild(newChild)
  appendRaw p c                                       -- _append_child(self, newChild)
  upd fun h => setNext h c none                       -- newChild.nextSibling = None

/-- `if refChild is not None and refChild not in self.childNodes: raise NotFoundErr` -/
def checkRef (p : Id) (ref : Option Id) : M Unit := do
  match ref with
  | some r => if !(← rd fun h => decide (r ∈ (h p).kids)) then raise .NotFound
  | none => pure ()

/-- the `if index: … else: …` statement of insertBefore -/
def linkPrev (p n : Id) (index : Nat) : M Unit := do
  if index ≠ 0 then
    match (← rd fun h => (h p).kids[index - 1]?) with   -- node = self.childNodes[index-1]
    | none => raise .Other                            --   (IndexError; shown unreachable)
    | some node =>
      upd fun h => setNext h node (some n)            -- node.nextSibling = newChild
      upd fun h => setPrev h n (some node)            -- newChild.previousSibling = node
  else
    upd fun h => setPrev h n none                     -- newChild.previousSibling = None

/-- the `else:` branch of insertBefore (refChild given) -/
def insertAtRef (p n r : Id) : M Unit := do
  if !(← rd fun h => decide (r ∈ (h p).kids)) then
    raise .NotFound                                   -- index = self.childNodes.index(refChild) -> ValueError -> NotFoundErr
  let index ← rd fun h => (h p).kids.idxOf r
  upd fun h => setKids h p ((h p).kids.insertIdx index n)   -- self.childNodes.insert(index, newChild)
  upd fun h => setNext h n (some r)                   -- newChild.nextSibling = refChild
  upd fun h => setPrev h r (some n)                   -- refChild.previousSibling = newChild
  linkPrev p n index                                  -- if index: … else: …
  upd fun h => setParent h n (some p)                 -- newChild.parentNode = self

/-- `p.insertBefore(n, ref)` -/
def insertBefore (p n : Id) (ref : Option Id) : M Unit := do
  if (← rd fun h => (h p).kind) ≠ .elem then
    raise .Hierarchy                                  -- Childless.insertBefore
  checkRef p ref                                      -- refChild given but not a child: NotFoundErr
  if ref = some n then                                -- if newChild is refChild: return newChild
    pure ()
  else
    detachIfAttached n                                -- if newChild.parentNode is not None: newChild.parentNode.removeChild(newChild)
    match ref with
    | none => appendChild p n                         -- if refChild is None: self.appendChild(newChild)
    | some r => insertAtRef p n r                     -- else: …

/-- object creation (`Text(data)`, `CDATASection(data)`, `Element.__init__` prologue): the
    id now holds a fresh record of the given kind -/
def initNode (i : Id) (k : Kind) (qn : Nat) : M Unit :=
  upd fun h => h.set i { kind := k, qn := qn }

/-- `p.addElement(c)`; `allowed` = `allowed_children is None or c.qname in allowed_children` -/
def addElement (p c : Id) (allowed : Bool) : M Unit := do
  if !allowed then raise .IllegalChild
  appendChild p c

/-- `p.addText(text)`; `t` is the id the new Text node gets; `allowsText` = `qname in
    grammar.allows_text`; `nonempty` = `text != ''` -/
def addText (p t : Id) (allowsText nonempty : Bool) : M Unit := do
  if !allowsText then raise .IllegalText
  if nonempty then
    initNode t .text 0                                -- Text(text)
    appendChild p t

/-- `p.addCDATA(cdata)` -/
def addCDATA (p t : Id) (allowsText : Bool) : M Unit := do
  if !allowsText then raise .IllegalText
  initNode t .cdata 0                                 -- CDATASection(cdata)
  appendChild p t

/-- `attributes.get(key)` -/
def lookupAttr (k : Nat) : List (Nat × Nat) → Option Nat
  | [] => none
  | (k', v) :: r => if k' = k then some v else lookupAttr k r

/-- `attributes[key] = v` (an existing key keeps its place, a new one goes last) -/
def storeAttr (k v : Nat) : List (Nat × Nat) → List (Nat × Nat)
  | [] => [(k, v)]
  | (k', v') :: r => if k' = k then (k, v) :: r else (k', v') :: storeAttr k v r

/-- `del attributes[key]` (the key is known to be present) -/
def dropAttr (k : Nat) : List (Nat × Nat) → List (Nat × Nat)
  | [] => []
  | (k', v') :: r => if k' = k then r else (k', v') :: dropAttr k r

/-- `e.setAttrNS(ns, local, value)`; `conv` = what `AttrConverters().convert` does with the
    value: returns the converted value or raises -/
def setAttrNS (e : Id) (key : Nat) (conv : Except Err Nat) : M Unit := do
  match conv with                                     -- the right-hand side is evaluated first
  | .error x => raise x
  | .ok v => upd fun h => setAttrs h e (storeAttr key v (h e).attrs)   -- self.attributes[(ns, local)] = …

/-- `e.setAttribute(attr, value)` (check_grammar=True, attr ≠ 'parent');
    `known` = `allowed_attributes() is not None`, `isTuple` = attr is a (ns, local) pair,
    `allowed` = `attr in allowed_args` -/
def setAttribute (e : Id) (known isTuple allowed : Bool) (key : Nat) (conv : Except Err Nat) : M Unit := do
  if !known then
    if isTuple then setAttrNS e key conv
    else raise .AttributeError
  else
    if !allowed then raise .AttributeError
    setAttrNS e key conv

/-- `e.removeAttribute(attr)` (check_grammar=True) -/
def removeAttribute (e : Id) (known isTuple allowed : Bool) (key : Nat) : M Unit := do
  if !known && !isTuple then raise .AttributeError
  if known && !allowed then raise .AttributeError
  if (← rd fun h => lookupAttr key (h e).attrs) = none then
    raise .KeyError                                   -- del self.attributes[...]
  upd fun h => setAttrs h e (dropAttr key (h e).attrs)

/-- one entry of the constructor's attribute loops -/
inductive AttrArg where
  | viaSet (known isTuple allowed : Bool) (key : Nat) (conv : Except Err Nat)  -- attributes= / keyword: setAttribute
  | viaNS (key : Nat) (conv : Except Err Nat)                                   -- qattributes=: setAttrNS
  | raw (key val : Nat)                                                         -- allowed_attrs is None: attributes[arg] = value

def applyAttr (e : Id) : AttrArg → M Unit
  | .viaSet k t a key conv => setAttribute e k t a key conv
  | .viaNS key conv => setAttrNS e key conv
  | .raw key val => upd fun h => setAttrs h e (storeAttr key val (h e).attrs)

def applyAttrs (e : Id) : List AttrArg → M Unit
  | [] => pure ()
  | a :: r => do applyAttr e a; applyAttrs e r

/-- the required-attribute loop of `Element.__init__` -/
def checkRequired (e : Id) : List Nat → M Unit
  | [] => pure ()
  | r :: rs => do
    if (← rd fun h => lookupAttr r (h e).attrs) = none then raise .AttributeError
    checkRequired e rs

/-- `if text is not None: self.addText(text)`; the pair is (id of the Text node, `text != ''`) -/
def ctorText (self : Id) (allowsText : Bool) : Option (Id × Bool) → M Unit
  | some (t, nonempty) => addText self t allowsText nonempty
  | none => pure ()

/-- `if cdata is not None: self.addCDATA(cdata)` -/
def ctorCData (self : Id) (allowsText : Bool) : Option Id → M Unit
  | some c => addCDATA self c allowsText
  | none => pure ()

/-- `if parent is not None: parent.addElement(self)`; the pair is (parent, grammar verdict) -/
def ctorAttach (self : Id) : Option (Id × Bool) → M Unit
  | some (p, allowed) => addElement p self allowed
  | none => pure ()

/-- `Element.__init__` as called by a factory (`P(text=…, stylename=…, parent=…)`) -/
def construct (self : Id) (qn : Nat) (allowsText : Bool)
    (text : Option (Id × Bool)) (cdata : Option Id)
    (attrs : List AttrArg) (required : List Nat) (parent : Option (Id × Bool)) : M Unit := do
  initNode self .elem qn                              -- childNodes = [], attributes = {}, no parent
  ctorText self allowsText text                       -- if text is not None: self.addText(text)
  ctorCData self allowsText cdata                     -- if cdata is not None: self.addCDATA(cdata)
  applyAttrs self attrs                               -- the three attribute loops
  checkRequired self required                         -- "Required attribute missing"
  ctorAttach self parent                              -- the parent is attached last

/-- `draw.StyleRefElement(stylename=…, classnames=…, **args)` — the wrapper behind the draw / dr3d /
    office:annotation factories: the family of `stylename` and of `classnames[0]` is checked FIRST
    (`pre` = the verdict: ValueError for a wrong family, IndexError/AttributeError → `Other` for an empty
    list or a non-style), only then `Element(qattributes=…, **args)` runs -/
def styleRefConstruct (pre : Except Err Unit) (self : Id) (qn : Nat) (allowsText : Bool)
    (text : Option (Id × Bool)) (cdata : Option Id)
    (attrs : List AttrArg) (required : List Nat) (parent : Option (Id × Bool)) : M Unit := do
  match pre with
  | .error e => raise e                                -- raise ValueError("Style's family must be …")
  | .ok _ => pure ()
  construct self qn allowsText text cdata attrs required parent   -- return Element(qattributes=qattrs, **args)

inductive Op where
  | newNode (i : Id) (k : Kind) (qn : Nat)
  | append (p c : Id)
  | insertBefore (p n : Id) (ref : Option Id)
  | remove (p c : Id)
  | addElement (p c : Id) (allowed : Bool)
  | addText (p t : Id) (allowsText nonempty : Bool)
  | addCDATA (p t : Id) (allowsText : Bool)
  | setAttribute (e : Id) (known isTuple allowed : Bool) (key : Nat) (conv : Except Err Nat)
  | setAttrNS (e : Id) (key : Nat) (conv : Except Err Nat)
  | removeAttribute (e : Id) (known isTuple allowed : Bool) (key : Nat)

/-- an id that can stand for a newly created Python object: its record has no parent and no children (so, in a
    consistent heap, `C08.Inv`, no child list names it) -/
def Blank (h : Heap) (i : Id) : Prop := (h i).parent = none ∧ (h i).kids = []
instance (h : Heap) (i : Id) : Decidable (Blank h i) := by unfold Blank; exact inferInstance

/-- allocation discipline of the protocol: a creating operation must name an unused id
    (a new Python object is never an existing one); otherwise `Other`, nothing done -/
def fresh (i : Id) : M Unit := do
  if !(← rd fun h => decide (Blank h i)) then raise .Other

def step : Op → M Unit
  | .newNode i k qn => do fresh i; initNode i k qn
  | .append p c => appendChild p c
  | .insertBefore p n ref => insertBefore p n ref
  | .remove p c => removeChild p c
  | .addElement p c a => addElement p c a
  | .addText p t a ne => do fresh t; addText p t a ne
  | .addCDATA p t a => do fresh t; addCDATA p t a
  | .setAttribute e k t a key conv => setAttribute e k t a key conv
  | .setAttrNS e key conv => setAttrNS e key conv
  | .removeAttribute e k t a key => removeAttribute e k t a key

/-- an edit history: every operation runs on the heap its predecessor left, whether that
    one succeeded or raised (the caller catches the exception and goes on) -/
def runOps (h : Heap) : List Op → Heap
  | [] => h
  | op :: r => runOps ((step op).run h).1 r

end OdfModel.Dom
