/-
  OdfModel.XhtmlLemmas — the handlers of the XHTML transducer model one by one (property C18).

  Every write operation is `emitAll` of a token list, so a handler run is described by the tokens `w` it appends, what it
  does with the pending character data (`TextEff`, by the handler's kind `hkind`) and the tag depth (`Does`); whether the
  tags balance (`bal`) is a fact about `w`.  `bracket_spec` / `leaf_spec` do this for the handlers of running text,
  `htmlBody_spec` / `generateFootnotes_spec` for the document skeleton.  The handlers in front of the body write nothing
  (`quiet_spec`, in the form `QuietEff`); for the note citation `citation_spec` is the equation of its run.  The inductions
  over the document tree are in `OdfModel.XhtmlText`.
-/
import OdfModel.Xhtml
namespace OdfModel.Xhtml
open OdfModel OdfModel.Xml OdfModel.Generated.Xhtml

/-! ### primitive operations: field lemmas -/

@[simp] theorem emit_out (t : Tok) (st : St) : (emit t st).out = st.out ++ [t] := rfl
@[simp] theorem emit_depth (t : Tok) (st : St) : (emit t st).depth = st.depth := rfl
@[simp] theorem emit_saved (t : Tok) (st : St) : (emit t st).saved = st.saved := rfl
@[simp] theorem emit_nbOpen (t : Tok) (st : St) : (emit t st).nbOpen = st.nbOpen := rfl
@[simp] theorem emit_notes (t : Tok) (st : St) : (emit t st).notes = st.notes := rfl
@[simp] theorem emit_cur (t : Tok) (st : St) : (emit t st).cur = st.cur := rfl
@[simp] theorem emit_listtypes (t : Tok) (st : St) : (emit t st).listtypes = st.listtypes := rfl
@[simp] theorem emit_data (t : Tok) (st : St) : (emit t st).data = st.data := rfl

@[simp] theorem purge_out (st : St) : (purgedata st).out = st.out := rfl
@[simp] theorem purge_depth (st : St) : (purgedata st).depth = st.depth := rfl
@[simp] theorem purge_saved (st : St) : (purgedata st).saved = st.saved := rfl
@[simp] theorem purge_nbOpen (st : St) : (purgedata st).nbOpen = st.nbOpen := rfl
@[simp] theorem purge_notes (st : St) : (purgedata st).notes = st.notes := rfl
@[simp] theorem purge_cur (st : St) : (purgedata st).cur = st.cur := rfl
@[simp] theorem purge_listtypes (st : St) : (purgedata st).listtypes = st.listtypes := rfl
@[simp] theorem purge_data (st : St) : (purgedata st).data = [] := rfl

@[simp] theorem opentag_out (t : Str) (a : Attrs) (b : Bool) (st : St) : (opentag t a b st).out = st.out ++ [.otag t a b] := rfl
@[simp] theorem opentag_depth (t : Str) (a : Attrs) (b : Bool) (st : St) : (opentag t a b st).depth = st.depth + 1 := rfl
@[simp] theorem opentag_saved (t : Str) (a : Attrs) (b : Bool) (st : St) : (opentag t a b st).saved = st.saved := rfl
@[simp] theorem opentag_nbOpen (t : Str) (a : Attrs) (b : Bool) (st : St) : (opentag t a b st).nbOpen = st.nbOpen := rfl
@[simp] theorem opentag_notes (t : Str) (a : Attrs) (b : Bool) (st : St) : (opentag t a b st).notes = st.notes := rfl
@[simp] theorem opentag_cur (t : Str) (a : Attrs) (b : Bool) (st : St) : (opentag t a b st).cur = st.cur := rfl
@[simp] theorem opentag_listtypes (t : Str) (a : Attrs) (b : Bool) (st : St) : (opentag t a b st).listtypes = st.listtypes := rfl
@[simp] theorem opentag_data (t : Str) (a : Attrs) (b : Bool) (st : St) : (opentag t a b st).data = st.data := rfl

@[simp] theorem closePure_out (t : Str) (b : Bool) (st : St) : (closePure t b st).out = st.out ++ [.ctag t b] := rfl
@[simp] theorem closePure_depth (t : Str) (b : Bool) (st : St) : (closePure t b st).depth = st.depth - 1 := rfl
@[simp] theorem closePure_saved (t : Str) (b : Bool) (st : St) : (closePure t b st).saved = st.saved := rfl
@[simp] theorem closePure_nbOpen (t : Str) (b : Bool) (st : St) : (closePure t b st).nbOpen = st.nbOpen := rfl
@[simp] theorem closePure_notes (t : Str) (b : Bool) (st : St) : (closePure t b st).notes = st.notes := rfl
@[simp] theorem closePure_cur (t : Str) (b : Bool) (st : St) : (closePure t b st).cur = st.cur := rfl
@[simp] theorem closePure_listtypes (t : Str) (b : Bool) (st : St) : (closePure t b st).listtypes = st.listtypes := rfl
@[simp] theorem closePure_data (t : Str) (b : Bool) (st : St) : (closePure t b st).data = st.data := rfl

@[simp] theorem emptytag_out (t : Str) (a : Attrs) (st : St) : (emptytag t a st).out = st.out ++ [.etag t a] := rfl
@[simp] theorem emptytag_depth (t : Str) (a : Attrs) (st : St) : (emptytag t a st).depth = st.depth := rfl
@[simp] theorem emptytag_saved (t : Str) (a : Attrs) (st : St) : (emptytag t a st).saved = st.saved := rfl
@[simp] theorem emptytag_nbOpen (t : Str) (a : Attrs) (st : St) : (emptytag t a st).nbOpen = st.nbOpen := rfl
@[simp] theorem emptytag_notes (t : Str) (a : Attrs) (st : St) : (emptytag t a st).notes = st.notes := rfl
@[simp] theorem emptytag_cur (t : Str) (a : Attrs) (st : St) : (emptytag t a st).cur = st.cur := rfl
@[simp] theorem emptytag_listtypes (t : Str) (a : Attrs) (st : St) : (emptytag t a st).listtypes = st.listtypes := rfl
@[simp] theorem emptytag_data (t : Str) (a : Attrs) (st : St) : (emptytag t a st).data = st.data := rfl

@[simp] theorem emitAll_out (ts : List Tok) (st : St) : (emitAll ts st).out = st.out ++ ts := rfl
@[simp] theorem emitAll_depth (ts : List Tok) (st : St) : (emitAll ts st).depth = st.depth := rfl
@[simp] theorem emitAll_saved (ts : List Tok) (st : St) : (emitAll ts st).saved = st.saved := rfl
@[simp] theorem emitAll_nbOpen (ts : List Tok) (st : St) : (emitAll ts st).nbOpen = st.nbOpen := rfl
@[simp] theorem emitAll_notes (ts : List Tok) (st : St) : (emitAll ts st).notes = st.notes := rfl
@[simp] theorem emitAll_cur (ts : List Tok) (st : St) : (emitAll ts st).cur = st.cur := rfl
@[simp] theorem emitAll_listtypes (ts : List Tok) (st : St) : (emitAll ts st).listtypes = st.listtypes := rfl
@[simp] theorem emitAll_data (ts : List Tok) (st : St) : (emitAll ts st).data = st.data := rfl

/-! The conditional and repeated writes are `emitAll` of a token list; `getAnchor` and `titleFromHeading` only touch
    fields no invariant below mentions. -/

/-- what `writedata` appends -/
def dataToks (d : Str) : List Tok := if d.isEmpty then [] else [.text d]

/-- what `emitCss` appends -/
def cssToks (s : Str) : List Tok := if s.isEmpty then [] else [.raw (.css s)]

@[simp] theorem emitText_eq (s : Str) (st : St) : emitText s st = emitAll (dataToks s) st := by
  unfold emitText dataToks emitAll emit; split <;> simp

@[simp] theorem writedata_eq (st : St) : writedata st = emitAll (dataToks st.data) st := emitText_eq _ _

@[simp] theorem emitCss_eq (s : Str) (st : St) : emitCss s st = emitAll (cssToks s) st := by
  unfold emitCss cssToks emitAll emit; split <;> simp

@[simp] theorem emitN_eq (t : Tok) (n : Nat) (st : St) : emitN t n st = emitAll (List.replicate n t) st := by
  induction n generalizing st with
  | zero => simp [emitN, emitAll]
  | succ n ih => simp [emitN, ih, emitAll, emit, List.replicate_succ]

theorem emitN_data (t : Tok) (n : Nat) (st : St) : (emitN t n st).data = st.data := by simp
theorem emitCss_data (s : Str) (st : St) : (emitCss s st).data = st.data := by simp

@[simp] theorem getAnchor_snd (n : Str) (st : St) : (getAnchor n st).2 =
    { st with anchors := if st.anchors.idxOf n < st.anchors.length then st.anchors else st.anchors ++ [n] } := by
  simp only [getAnchor]; split <;> rfl

@[simp] theorem titleFromHeading_eq (st : St) :
    titleFromHeading st = { st with title := if st.title.isEmpty then st.data else st.title } := by
  unfold titleFromHeading; split <;> simp

theorem closetag_ok {t : Str} {b : Bool} {st : St} (h : 0 < st.depth) : closetag t b st = .ok (closePure t b st) := by
  unfold closetag; rw [if_neg (by omega)]

/-! ### the bracket structure of a token list -/

/-- bracket view of a token: the hand-written `<title>` … `</title>` pair counts as a tag pair -/
inductive Br where
  | op (t : Str) | cl (t : Str) | neutral

def br : Tok → Br
  | .otag t _ _ => .op t
  | .ctag t _ => .cl t
  | .raw .titleOpen => .op nTitle
  | .raw .titleClose => .cl nTitle
  | _ => .neutral

/-- run the token list over a stack of open tags; `none` = a close tag that does not match the innermost open tag -/
def bal : List Tok → List Str → Option (List Str)
  | [], s => some s
  | t :: ts, s =>
    match br t with
    | .op x => bal ts (x :: s)
    | .cl x =>
      match s with
      | y :: s' => if x = y then bal ts s' else none
      | [] => none
    | .neutral => bal ts s

/-- the output is a Dyck word: every tag closed, properly nested -/
def Dyck (ts : List Tok) : Prop := bal ts [] = some []

/-- a segment that leaves every stack as it found it -/
def Balanced (w : List Tok) : Prop := ∀ s, bal w s = some s

theorem bal_append (w1 w2 : List Tok) (s : List Str) : bal (w1 ++ w2) s = (bal w1 s).bind (bal w2) := by
  induction w1 generalizing s with
  | nil => simp [bal]
  | cons t ts ih =>
    simp only [List.cons_append, bal]
    cases br t with
    | op x => exact ih _
    | cl x =>
      cases s with
      | nil => simp
      | cons y s' => by_cases h : x = y <;> simp [h, ih]
    | neutral => exact ih _

theorem Balanced.nil : Balanced [] := fun _ => rfl

theorem Balanced.append {w1 w2 : List Tok} (h1 : Balanced w1) (h2 : Balanced w2) : Balanced (w1 ++ w2) := by
  intro s; rw [bal_append, h1 s]; exact h2 s

theorem Balanced.neutral {t : Tok} (h : br t = .neutral) : Balanced [t] := by
  intro s; simp [bal, h]

theorem bal_close {w : List Tok} (h : Balanced w) (t : Str) (b : Bool) (S : List Str) :
    bal (w ++ [.ctag t b]) (t :: S) = some S := by rw [bal_append, h (t :: S)]; simp [bal, br]

theorem Balanced.wrap {w : List Tok} (h : Balanced w) (t : Str) (a : Attrs) (b b' : Bool) :
    Balanced (Tok.otag t a b :: (w ++ [Tok.ctag t b'])) :=
  fun s => bal_close h t b' s

theorem Balanced.dataToks (d : Str) : Balanced (dataToks d) := by
  unfold Xhtml.dataToks; split
  · exact Balanced.nil
  · exact Balanced.neutral rfl

theorem Balanced.cons_neutral {t : Tok} {w : List Tok} (ht : br t = .neutral) (h : Balanced w) : Balanced (t :: w) :=
  Balanced.append (w1 := [t]) (Balanced.neutral ht) h

theorem Balanced.replicate {t : Tok} (h : br t = .neutral) (n : Nat) : Balanced (List.replicate n t) := by
  induction n with
  | zero => exact Balanced.nil
  | succ n ih => exact Balanced.cons_neutral h ih

@[simp] theorem bal_cssToks (c : Str) (S : List Str) : bal (cssToks c) S = some S := by cases c <;> rfl

@[simp] theorem bal_dataToks (d : Str) (S : List Str) : bal (dataToks d) S = some S := Balanced.dataToks d S

/-! ### the text of a token list -/

def tokText : Tok → Str
  | .text s => s
  | _ => []

/-- concatenation of the document-derived text tokens -/
def textOf (ts : List Tok) : Str := ts.flatMap tokText

@[simp] theorem textOf_nil : textOf [] = [] := rfl
@[simp] theorem textOf_append (a b : List Tok) : textOf (a ++ b) = textOf a ++ textOf b := by simp [textOf]
@[simp] theorem textOf_cons (t : Tok) (ts : List Tok) : textOf (t :: ts) = tokText t ++ textOf ts := by simp [textOf]
@[simp] theorem textOf_dataToks (d : Str) : textOf (dataToks d) = d := by cases d <;> simp [dataToks, tokText]

/-! ### one handler run

  Besides `w`, the pending data and the tag depth a handler of running text touches nothing the invariants speak of
  (`Same`).  What `w` does to the open tags is stated per *shape* of handler (`open_purge` … `leaf_flush`); `bracket_spec`
  and `leaf_spec` match the handlers against the shapes. -/

/-- the fields no handler of running text touches (only the note handlers do) -/
structure Same (st st' : St) : Prop where
  saved : st'.saved = st.saved
  nbOpen : st'.nbOpen = st.nbOpen
  notes : st'.notes = st.notes
  cur : st'.cur = st.cur
  listtypes : st'.listtypes = st.listtypes

@[simp] theorem Same.iff (st st' : St) : Same st st' ↔ st'.saved = st.saved ∧ st'.nbOpen = st.nbOpen ∧ st'.notes = st.notes ∧
    st'.cur = st.cur ∧ st'.listtypes = st.listtypes :=
  ⟨fun h => ⟨h.1, h.2, h.3, h.4, h.5⟩, fun ⟨a, b, c, d, e⟩ => ⟨a, b, c, d, e⟩⟩

theorem Same.refl (st : St) : Same st st := ⟨rfl, rfl, rfl, rfl, rfl⟩

theorem Same.trans {a b c : St} (h1 : Same a b) (h2 : Same b c) : Same a c :=
  ⟨h2.saved.trans h1.saved, h2.nbOpen.trans h1.nbOpen, h2.notes.trans h1.notes, h2.cur.trans h1.cur,
   h2.listtypes.trans h1.listtypes⟩

/-- what a handler does with the pending character data -/
inductive TKind where
  | keep    -- leaves `self.data` alone
  | flush   -- writedata() … purgedata()
  | purge   -- purgedata() without writedata()
  deriving DecidableEq, Repr

/-- the kind of each handler of running text; `none` = not one (skeleton, head part, notes).  Nothing rests on this table
    being right: `bracket_spec` and `leaf_spec` prove that each handler treats the pending data as its kind says. -/
def hkind : HName → Option TKind
  | .s_text_p | .s_text_h | .s_text_list | .s_text_list_item | .s_table_table | .s_table_table_row
  | .s_table_table_cell | .s_table_table_column => some .purge
  | .s_text_span | .s_text_a | .s_text_bookmark_ref | .s_text_bookmark | .s_text_tab | .s_text_line_break
  | .s_draw_frame | .s_text_s | .s_custom_shape | .s_draw_shape
  | .e_text_p | .e_text_span | .e_text_a | .e_text_h | .e_text_list | .e_text_list_item | .e_table_table
  | .e_table_table_row | .e_table_table_cell => some .flush
  | .e_draw_frame | .e_custom_shape | .s_draw_textbox | .e_draw_textbox | .s_draw_page | .e_draw_page | .s_draw_image => some .keep
  | _ => none

/-- a handler of kind `k` (as `hkind` gives it) that finds `d` pending may write `w` and leave `d'` pending -/
def TextEff (k : Option TKind) (d : Str) (w : List Tok) (d' : Str) : Prop :=
  match k with
  | some .keep => d' = d
  | some .flush => d <+: textOf w ∧ d' = []
  | some .purge => d' = []
  | none => True

@[simp] theorem textEff_keep (d d' : Str) (w : List Tok) : TextEff (some .keep) d w d' ↔ d' = d := Iff.rfl
@[simp] theorem textEff_purge (d d' : Str) (w : List Tok) : TextEff (some .purge) d w d' ↔ d' = [] := Iff.rfl
@[simp] theorem textEff_flush (d : Str) (w : List Tok) : TextEff (some .flush) d (dataToks d ++ w) [] := ⟨by simp, rfl⟩

/-- the run `r` succeeds with the flags `pe pc`, appends `w`, treats the pending data as a handler of kind `k` does and
    leaves the tag depth at `n` -/
def Does (r : M (St × Bool × Bool)) (st : St) (pe pc : Bool) (k : Option TKind) (w : List Tok) (n : Nat) : Prop :=
  ∃ st1, r = .ok (st1, pe, pc) ∧ st1.out = st.out ++ w ∧ TextEff k st.data w st1.data ∧ st1.depth = n ∧ Same st st1

/-- used as `Does.intro (by simp)`: `Same.iff`, the `textEff_*` lemmas and the field lemmas of the primitives close `h` -/
theorem Does.intro {st st1 : St} {pe pc : Bool} {k : Option TKind} {w : List Tok} {n : Nat}
    (h : st1.out = st.out ++ w ∧ TextEff k st.data w st1.data ∧ st1.depth = n ∧ Same st st1) :
    Does (.ok (st1, pe, pc)) st pe pc k w n :=
  ⟨st1, rfl, h⟩

/-- (start handler, end handler) pairs that bracket their content with one tag, and what they need from the attributes -/
inductive BracketH : HName → HName → Attrs → Prop
  | p (a) : BracketH .s_text_p .e_text_p a
  | span (a) : BracketH .s_text_span .e_text_span a
  | list (a) : BracketH .s_text_list .e_text_list a
  | item (a) : BracketH .s_text_list_item .e_text_list_item a
  | table (a) : BracketH .s_table_table .e_table_table a
  | row (a) : BracketH .s_table_table_row .e_table_table_row a
  | cell (a) : BracketH .s_table_table_cell .e_table_table_cell a
  | frame (a) : BracketH .s_draw_frame .e_draw_frame a
  | shape (a) : BracketH .s_custom_shape .e_custom_shape a
  | textbox (a) : BracketH .s_draw_textbox .e_draw_textbox a
  | page (a) : BracketH .s_draw_page .e_draw_page a
  | link (a v) : a.lookup kHref = some v → BracketH .s_text_a .e_text_a a
  | bmref (a v) : a.lookup kRefName = some v → BracketH .s_text_bookmark_ref .e_text_a a
  | heading (a lvl) : headingLevel a = .ok lvl → BracketH .s_text_h .e_text_h a

/-- start handlers without an end handler that write a balanced segment, and what they need -/
inductive LeafH : HName → Attrs → Prop
  | s (a n) : pyInt ((a.lookup kC).getD sOne) = some n → LeafH .s_text_s a
  | tab (a) : LeafH .s_text_tab a
  | br (a) : LeafH .s_text_line_break a
  | drawshape (a) : LeafH .s_draw_shape a
  | bookmark (a v) : a.lookup kName = some v → LeafH .s_text_bookmark a
  | image (a v) : a.lookup kHref = some v → LeafH .s_draw_image a
  | column (a n) : pyInt ((a.lookup kColsRepeated).getD sOne) = some n → LeafH .s_table_table_column a

/-- open a tag and discard the pending data; `st0` is `st`, or `st` with the heading counters moved -/
theorem open_purge {st st0 : St} {t : Str} {a : Attrs} {b pe pc : Bool}
    (h : st0.out = st.out ∧ st0.depth = st.depth ∧ Same st st0) :
    ∃ w, Does (.ok (purgedata (opentag t a b st0), pe, pc)) st pe pc (some .purge) w (st.depth + 1) ∧ ∀ S, bal w S = some (t :: S) :=
  ⟨[.otag t a b], Does.intro ⟨by simp [h.1], rfl, by simp [h.2.1], h.2.2.trans (by simp)⟩, fun _ => rfl⟩

/-- write the pending data, then open a tag; `st0` is the state after `writedata`, possibly with a new anchor -/
theorem open_flush {st st0 : St} {t : Str} {a : Attrs} {b pe pc : Bool}
    (h : st0.out = st.out ++ dataToks st.data ∧ st0.depth = st.depth ∧ Same st st0) :
    ∃ w, Does (.ok (purgedata (opentag t a b st0), pe, pc)) st pe pc (some .flush) w (st.depth + 1) ∧ ∀ S, bal w S = some (t :: S) :=
  ⟨dataToks st.data ++ [.otag t a b], Does.intro ⟨by simp [h.1], textEff_flush _ _, by simp [h.2.1], h.2.2.trans (by simp)⟩,
    fun S => by rw [bal_append, bal_dataToks]; rfl⟩

/-- end handlers of the form `writedata(); closetag(t); purgedata()` -/
theorem close_flush (t : Str) (b : Bool) (st : St) (pe pc : Bool) (hd : 0 < st.depth) :
    ∃ w, Does (((closetag t b (writedata st)).map purgedata).map (fun s => (s, pe, pc))) st pe pc (some .flush) w (st.depth - 1) ∧
      ∀ S, bal w (t :: S) = some S := by
  rw [closetag_ok (by simpa using hd)]
  exact ⟨dataToks st.data ++ [.ctag t b], Does.intro (by simp), bal_close (Balanced.dataToks _) t b⟩

/-- end handlers that only close their tag -/
theorem close_keep (t : Str) (b : Bool) (st : St) (pe pc : Bool) (hd : 0 < st.depth) :
    ∃ w, Does ((closetag t b st).map (fun s => (s, pe, pc))) st pe pc (some .keep) w (st.depth - 1) ∧ ∀ S, bal w (t :: S) = some S := by
  rw [closetag_ok hd]
  exact ⟨[.ctag t b], Does.intro (by simp), bal_close Balanced.nil t b⟩

/-- start handlers without end handler that write the pending data and then a balanced segment `w'` -/
theorem leaf_flush {st st1 : St} (w' : List Tok) {pe pc : Bool} (hb : Balanced w')
    (h : st1.out = st.out ++ dataToks st.data ++ w' ∧ st1.data = [] ∧ st1.depth = st.depth ∧ Same st st1) :
    ∃ w, Does (.ok (st1, pe, pc)) st pe pc (some .flush) w st.depth ∧ Balanced w :=
  ⟨dataToks st.data ++ w', Does.intro ⟨by simp [h.1], h.2.1 ▸ textEff_flush _ _, h.2.2⟩, (Balanced.dataToks _).append hb⟩

/-- the two handlers of a bracketing element: the start handler opens a tag `t`, the end handler closes it
    (`st2.listtypes = st.listtypes`: e_text_list computes its tag from `listtypes` again) -/
theorem bracket_spec {hs he : HName} {a : Attrs} (hb : BracketH hs he a) (cfg : Cfg) (ctx : Ctx) (q : Str) (pe pc : Bool) (st : St) :
    ∃ t, (∃ w, Does (runH cfg ctx hs q a pe pc st) st pe pc (hkind hs) w (st.depth + 1) ∧ ∀ S, bal w S = some (t :: S)) ∧
      ∀ st2, st2.listtypes = st.listtypes → 0 < st2.depth →
        ∃ w, Does (runH cfg ctx he q a pe pc st2) st2 pe pc (hkind he) w (st2.depth - 1) ∧ ∀ S, bal w (t :: S) = some S := by
  have flush (t : Str) (b : Bool) (st2 : St) (_ : st2.listtypes = st.listtypes) (hd : 0 < st2.depth) :=
    close_flush t b st2 pe pc hd
  have keep (t : Str) (b : Bool) (st2 : St) (_ : st2.listtypes = st.listtypes) (hd : 0 < st2.depth) :=
    close_keep t b st2 pe pc hd
  cases hb with
  | p | item | table | row | cell => exact ⟨_, open_purge (by simp), flush _ true⟩
  | span => exact ⟨nSpan, open_flush (st0 := writedata st) (by simp), flush _ false⟩
  | list =>
    refine ⟨listTag st (listClass ctx q a), open_purge (by simp), fun st2 hl hd => ?_⟩
    have : listTag st2 (listClass ctx q a) = listTag st (listClass ctx q a) := by simp [listTag, hl]
    rw [← this]; exact close_flush _ true st2 pe pc hd
  | frame | shape =>
    refine ⟨nDiv, ?_, keep _ true⟩
    obtain ⟨css, _⟩ := cfg
    cases css <;> exact open_flush (st0 := writedata st) (by simp)
  | textbox => exact ⟨nDiv, ⟨[.otag nDiv [] false], Does.intro (k := some .keep) (by simp), fun _ => rfl⟩, keep _ true⟩
  | page =>
    -- <fieldset><legend>name</legend>: the only start handler that writes text of its own
    refine ⟨nFieldset, ?_, keep _ true⟩
    have key (A : Attrs) : ∃ w, Does (.ok (closePure nLegend true (emitText ((a.lookup kDrawName).getD sNoName)
          (opentag nLegend [] false (opentag nFieldset A false st))), pe, pc)) st pe pc (some .keep) w (st.depth + 1) ∧
        ∀ S, bal w S = some (nFieldset :: S) :=
      ⟨.otag nFieldset A false :: .otag nLegend [] false :: (dataToks ((a.lookup kDrawName).getD sNoName) ++ [.ctag nLegend true]),
        Does.intro (by simp), fun S => show bal (.otag nLegend [] false :: _) (nFieldset :: S) = _ from
          Balanced.wrap (Balanced.dataToks _) nLegend [] false true (nFieldset :: S)⟩
    unfold runH; dsimp only
    split <;> (rw [closetag_ok (by simp)]; exact key _)
  | link _ v h =>
    refine ⟨nA, ?_, flush _ false⟩
    unfold runH; simp only [h]
    split <;> exact open_flush (by simp)
  | bmref _ v h =>
    refine ⟨nA, ?_, flush _ false⟩
    unfold runH; simp only [h]
    exact open_flush (by simp)
  | heading _ lvl h =>
    refine ⟨nH ++ natToStr lvl, ?_, fun st2 _ hd => ?_⟩
    · unfold runH; simp only [h]
      exact open_purge (by simp)
    · -- writedata(); <a id=anchor></a></hN>; purgedata()
      let p := getAnchor (outlineStr (titleFromHeading (writedata st2)).hl lvl ++ [46] ++ (titleFromHeading (writedata st2)).data)
        (titleFromHeading (writedata st2))
      have hr : runH cfg ctx .e_text_h q a pe pc st2 = .ok (purgedata (closePure (nH ++ natToStr lvl) true
          (closePure nA false (opentag nA [(aId, p.1)] false p.2))), pe, pc) := by
        unfold runH; simp [h, closetag, Except.map, bind, Except.bind, pure, Except.pure, p, Nat.ne_of_gt hd]
      rw [hr]
      exact ⟨dataToks st2.data ++ [.otag nA [(aId, p.1)] false, .ctag nA false] ++ [.ctag (nH ++ natToStr lvl) true],
        Does.intro (k := some .flush) (by simp [p]), bal_close ((Balanced.dataToks _).append (Balanced.wrap Balanced.nil nA _ false false)) _ true⟩

/-- a start handler without end handler writes a balanced segment (`hstack`: s_draw_image asks for its parent element) -/
theorem leaf_spec {hs : HName} {a : Attrs} (hl : LeafH hs a) (cfg : Cfg) (ctx : Ctx) (hstack : ctx.stack ≠ []) (q : Str) (pe pc : Bool) (st : St) :
    ∃ w, Does (runH cfg ctx hs q a pe pc st) st pe pc (hkind hs) w st.depth ∧ Balanced w := by
  cases hl with
  | s _ n h =>
    unfold runH; simp only [h]
    exact leaf_flush (List.replicate n (.raw .nbsp)) (Balanced.replicate rfl n) (by simp)
  | tab => exact leaf_flush [.raw .sp] (Balanced.neutral rfl) (by simp)
  | br => exact leaf_flush [.etag nBr []] (Balanced.neutral rfl) (by simp)
  | drawshape => exact leaf_flush [] Balanced.nil (by simp)
  | bookmark _ v h =>
    unfold runH; simp only [h]
    rw [closetag_ok (by simp)]
    exact leaf_flush [.otag nSpan [(aId, (getAnchor v st).1)] false, .ctag nSpan false]
      (Balanced.wrap Balanced.nil nSpan _ false false) (by simp)
  | image _ v h =>
    cases hst : ctx.stack with
    | nil => exact absurd hst hstack
    | cons parent rest =>
      unfold runH; simp only [h, hst]
      exact ⟨[.etag nImg _], Does.intro ⟨rfl, rfl, rfl, rfl, rfl, rfl, rfl, rfl⟩, Balanced.neutral rfl⟩
  | column _ n h =>
    unfold runH; simp only [h]
    exact ⟨List.replicate n (.etag nCol (classAttr sTCdash (a.lookup kTblStyle))), Does.intro (k := some .purge) (by simp),
      Balanced.replicate rfl n⟩

/-! ### handlers outside running text: the note citation, and the handlers that write nothing -/

/-- how `e_text_note_body` stores a body: `notes[cur - 1] = …` overwrites the entry `s_text_note` appended last -/
theorem set_last {α : Type} (l : List α) (x y : α) : (l ++ [x]).set l.length y = l ++ [y] := by
  induction l with
  | nil => rfl
  | cons a l ih => simp [ih]

theorem citation_spec {cfg : Cfg} {ctx : Ctx} {q : Str} {a : Attrs} {pe pc : Bool} {st : St} (h1 : st.cur ≠ 0)
    (h2 : st.cur ≤ st.notes.length) :
    runH cfg ctx .e_text_note_citation q a pe pc st =
      .ok (closePure nA true (closePure nSup true (emit (.raw (.num st.cur))
        (opentag nSup [] false (opentag nA [(aHref, sHashFootnote ++ natToStr st.cur)] false st)))), pe, pc) := by
  have hc : ¬ st.cur > st.notes.length := by omega
  unfold runH; simp [h1, hc, closetag, bind, Except.bind, Except.map]

/-- nothing is written and the note machinery is untouched (pending data, title, meta tags, list types may change) -/
structure QuietEff (st st' : St) : Prop where
  out : st'.out = st.out
  depth : st'.depth = st.depth
  saved : st'.saved = st.saved
  nbOpen : st'.nbOpen = st.nbOpen
  notes : st'.notes = st.notes
  cur : st'.cur = st.cur

theorem QuietEff.refl (st : St) : QuietEff st st := ⟨rfl, rfl, rfl, rfl, rfl, rfl⟩

theorem QuietEff.trans {a b c : St} (h1 : QuietEff a b) (h2 : QuietEff b c) : QuietEff a c :=
  ⟨h2.out.trans h1.out, h2.depth.trans h1.depth, h2.saved.trans h1.saved, h2.nbOpen.trans h1.nbOpen,
   h2.notes.trans h1.notes, h2.cur.trans h1.cur⟩

/-- handlers that write nothing, with what the two list-level handlers need from the attributes and the enclosing elements -/
def quietOK (h : HName) (a : Attrs) (stack : List (Str × Attrs)) : Prop :=
  match h with
  | .s_processcont | .s_ignorexml | .s_ignorecont | .e_dc_title | .e_dc_metatag | .e_dc_contentlanguage | .e_dc_creator
  | .s_office_automatic_styles | .s_office_master_styles | .s_office_styles
  | .s_style_default_style | .e_style_default_style | .s_style_font_face | .s_style_handle_properties
  | .s_style_page_layout | .e_style_page_layout | .s_style_style | .e_style_style
  | .e_text_list_level_style_bullet | .e_text_list_level_style_number | .s_style_master_page => True
  | .s_text_list_level_style_bullet =>
    ∃ lv name n, a.lookup kLevel = some lv ∧ rfindattr stack kStyleNameAttr = some name ∧ pyInt lv = some n
  | .s_text_list_level_style_number =>
    ∃ p rest name lv, stack = p :: rest ∧ p.2.lookup kStyleNameAttr = some name ∧ a.lookup kLevel = some lv
  | _ => False

theorem quiet_spec (cfg : Cfg) (ctx : Ctx) (h : HName) (q : Str) (a : Attrs) (pe pc : Bool) (st : St)
    (hq : quietOK h a ctx.stack) : ∃ st1 pe1 pc1, runH cfg ctx h q a pe pc st = .ok (st1, pe1, pc1) ∧ QuietEff st st1 := by
  cases h with
  | s_text_list_level_style_bullet =>
    obtain ⟨lv, name, n, h1, h2, h3⟩ := hq
    exact ⟨{ st with listtypes := (name ++ [95] ++ lv, nUl) :: st.listtypes }, pe, pc, by unfold runH; simp only [h1, h2, h3],
      ⟨rfl, rfl, rfl, rfl, rfl, rfl⟩⟩
  | s_text_list_level_style_number =>
    obtain ⟨p, rest, name, lv, h1, h2, h3⟩ := hq
    exact ⟨{ st with listtypes := (name ++ [95] ++ lv, nOl) :: st.listtypes }, pe, pc, by unfold runH; simp only [h1, h2, h3],
      ⟨rfl, rfl, rfl, rfl, rfl, rfl⟩⟩
  | s_processcont | s_ignorexml | s_ignorecont | e_dc_title | e_dc_metatag | e_dc_contentlanguage | e_dc_creator
  | s_office_automatic_styles | s_office_master_styles | s_office_styles
  | s_style_default_style | e_style_default_style | s_style_font_face | s_style_handle_properties
  | s_style_page_layout | e_style_page_layout | s_style_style | e_style_style
  | e_text_list_level_style_bullet | e_text_list_level_style_number | s_style_master_page =>
    exact ⟨_, _, _, rfl, ⟨rfl, rfl, rfl, rfl, rfl, rfl⟩⟩
  | _ => exact False.elim hq

/-! ### the document skeleton: html_body, generate_footnotes

  As for the handlers: each writes a token list `w`; `w` is balanced (html_body: closes `<head>`, opens `<body>`), and
  generate_footnotes writes the text of the collected notes. -/

/-- every collected note has a body, and the body is balanced -/
def NotesOK (ns : List (Option (List Tok))) : Prop := ∀ x ∈ ns, ∃ body, x = some body ∧ Balanced body

/-- text of the collected note bodies, in the order they will be written by generate_footnotes -/
def notesText (ns : List (Option (List Tok))) : Str :=
  ns.flatMap (fun n => match n with | some b => textOf b | none => [])

@[simp] theorem notesText_append (a b : List (Option (List Tok))) : notesText (a ++ b) = notesText a ++ notesText b := by
  simp [notesText]

@[simp] theorem textOf_cssToks (c : Str) : textOf (cssToks c) = [] := by cases c <;> rfl

/-- the style element html_body writes with generate_css -/
def styleToks (cfg : Cfg) : List Tok :=
  if cfg.css then .otag nStyle [(aType, sTextCss)] true :: .raw .cdataOpen :: .raw .defaultStyles ::
    (cssToks cfg.cssText ++ [.raw .cdataClose, .ctag nStyle true])
  else []

@[simp] theorem bal_styleToks (cfg : Cfg) (S : List Str) : bal (styleToks cfg) S = some S := by
  unfold styleToks; split <;> simp [bal, br, bal_append]

@[simp] theorem textOf_styleToks (cfg : Cfg) : textOf (styleToks cfg) = [] := by
  unfold styleToks; split <;> simp [tokText]

/-- html_body writes the pending data and the style element, then pops `head` off the tag stack (it fails when nothing is
    open) and opens `body` -/
theorem htmlBody_eq (cfg : Cfg) (st : St) : htmlBody cfg st =
    (closetag nHead true (purgedata (emitAll (dataToks st.data ++ styleToks cfg) st))).map (opentag nBody [] true) := by
  unfold htmlBody styleToks
  cases cfg.css <;>
    simp [closetag, bind, Except.bind, pure, Except.pure, Except.map, opentag, emit, emitAll, purgedata, closePure]

theorem htmlBody_spec (cfg : Cfg) (st : St) (hd : 0 < st.depth) :
    ∃ st' w, htmlBody cfg st = .ok st' ∧ st'.out = st.out ++ w ∧ st'.depth = st.depth ∧ Same st st' ∧
      ∀ S, bal w (nHead :: S) = some (nBody :: S) := by
  rw [htmlBody_eq, closetag_ok (by simpa using hd)]
  exact ⟨_, dataToks st.data ++ styleToks cfg ++ [.ctag nHead true, .otag nBody [] true], rfl, by simp, by simp; omega, by simp,
    fun S => by simp [bal_append, bal, br]⟩

theorem htmlBody_text (cfg : Cfg) (st st' : St) (h : htmlBody cfg st = .ok st') :
    textOf st'.out = textOf st.out ++ st.data := by
  rw [htmlBody_eq] at h
  unfold closetag at h
  split at h
  · cases h
  · cases h; simp [tokText]

theorem footnoteItems_spec (ns : List (Option (List Tok))) (k : Nat) (st : St) (hn : NotesOK ns) :
    ∃ st' w, footnoteItems ns k st = .ok st' ∧ st'.out = st.out ++ w ∧ st'.depth = st.depth ∧ Balanced w ∧
      textOf w = notesText ns := by
  induction ns generalizing k st with
  | nil => exact ⟨st, [], rfl, by simp, rfl, Balanced.nil, rfl⟩
  | cons n ns ih =>
    obtain ⟨body, rfl, hbal⟩ := hn n (by simp)
    simp only [footnoteItems]
    rw [closetag_ok (by simp)]
    obtain ⟨st', w, h', ho', hd', hb', ht'⟩ := ih (k + 1)
      (closePure nLi true (emitAll body (opentag nLi [(aId, sFootnote ++ natToStr k)] false st))) (fun x hx => hn x (by simp [hx]))
    exact ⟨st', .otag nLi [(aId, sFootnote ++ natToStr k)] false :: (body ++ [.ctag nLi true]) ++ w, h', by simp [ho'],
      by simp [hd'], (Balanced.wrap hbal nLi _ false true).append hb', by simp [ht', notesText, tokText]⟩

theorem generateFootnotes_spec (cfg : Cfg) (st : St) (hn : NotesOK st.notes) (hcur : st.cur = st.notes.length) :
    ∃ st' w, generateFootnotes cfg st = .ok st' ∧ st'.out = st.out ++ w ∧ st'.depth = st.depth ∧ Balanced w ∧
      textOf w = notesText st.notes := by
  unfold generateFootnotes
  split
  · rename_i hc
    have : st.notes = [] := List.eq_nil_of_length_eq_zero (hcur.symm.trans hc)
    exact ⟨st, [], rfl, by simp, rfl, Balanced.nil, by simp [this, notesText]⟩
  · have key (A : Attrs) (b : Bool) : ∃ st' w, (footnoteItems (opentag nOl A b st).notes 1 (opentag nOl A b st) >>= closetag nOl true) = .ok st' ∧
        st'.out = st.out ++ w ∧ st'.depth = st.depth ∧ Balanced w ∧ textOf w = notesText st.notes := by
      obtain ⟨st1, w, h1, ho1, hd1, hb1, ht1⟩ := footnoteItems_spec st.notes 1 (opentag nOl A b st) hn
      simp only [opentag_notes, bind, Except.bind, h1]
      rw [closetag_ok (by rw [hd1]; simp)]
      exact ⟨_, .otag nOl A b :: (w ++ [.ctag nOl true]), rfl, by simp [ho1], by simp [hd1], Balanced.wrap hb1 nOl A b true,
        by simp [ht1, tokText]⟩
    split <;> exact key _ _

end OdfModel.Xhtml
