/-
  C09: the document-level type query is an OBSERVATION.  On a document whose index is not empty (every built or loaded
  document: the sections below the top node are indexed when they are attached) `doc.getElementsByType(f)` hands out what the index
  holds and changes nothing — neither the tree, nor ownerDocument, nor the element index, nor the style dictionaries.  So
  any sequence of queries (the tail of `load()` asks for office:body to set `doc.text` / `doc.spreadsheet` / …; the harness
  asks for EVERY type that occurs in the tree, `SKEL_QUERY` in harness/c09.py) leaves the state as it was, and a later query
  still gets the list the index held before; a caller that takes its answer apart is outside what the query does.
-/
import OdfModel.Props.C09
namespace OdfModel.Props.C09Queries
open OdfModel.Dom OdfModel.DomDoc OdfModel.Props.C07 OdfModel.Props.C08 OdfModel.Props.C09
-- the node id; the bare name is ambiguous with `_root_.Id` without this alias (see OdfModel/DomDoc.lean)
export OdfModel.Dom (Id)

/-- **C09 (a query is read-only)**: on a non-empty index `doc.getElementsByType(f)` returns the list kept for the
    qname and leaves the whole state — tree, ownerDocument, element index, style dictionaries — unchanged. -/
theorem docByType_readonly (q : Nat) (s : DState) (hne : s.edict.isEmpty = false) :
    (docByType q).run s = (s, .ok (edGet s.edict q)) := by
  unfold docByType
  simp only [DomDoc.run_bind_rd, hne, Bool.false_eq_true, if_false, DomDoc.run_rd]

/-- `doc.getElementsByType` for a whole list of types, one after the other -/
def askAll : List Nat → DM Unit
  | [] => pure ()
  | q :: r => do let _ ← docByType q; askAll r

/-- **C09 (any battery of queries is read-only)**: asking for a whole list of types one after the other (every type
    that occurs in the document) leaves the state unchanged. -/
theorem askAll_readonly (qs : List Nat) (s : DState) (hne : s.edict.isEmpty = false) :
    (askAll qs).run s = (s, .ok ()) := by
  induction qs with
  | nil => rfl
  | cons q r ih =>
    unfold askAll
    rw [DomDoc.run_bind, docByType_readonly q s hne]
    exact ih

/-- **C09 (the tail of load())**: a query for one type (office:body, to find the child that becomes `doc.text`, …),
    then a query for ANY type: the second answer is the list the index held at the start — in particular the body is
    still listed after load() looked it up — and the state is the state at the start. -/
theorem docByType_after_query (q q' : Nat) (s : DState) (hne : s.edict.isEmpty = false) :
    (do let _ ← docByType q; docByType q').run s = (s, .ok (edGet s.edict q')) := by
  rw [DomDoc.run_bind, docByType_readonly q s hne]
  exact docByType_readonly q' s hne

/-- **C09 (every type, after any battery of queries)**: in a coherent state with a non-empty index, after asking for
    any list of types, the answer for a type `q` has no repetition and consists exactly of the attached elements of
    that qname (the top node aside) — for every `q`, the skeleton types included. -/
theorem docByType_exact_after_queries (qs : List Nat) (q : Nat) {s s' : DState} {l : List Id} (hG : Good s)
    (hne : s.edict.isEmpty = false)
    (hrun : (do askAll qs; docByType q).run s = (s', .ok l)) :
    s' = s ∧ l.Nodup ∧ ∀ x, x ≠ s.top → (x ∈ l ↔ Att s x ∧ (s.heap x).kind = .elem ∧ (s.heap x).qn = q) := by
  rw [DomDoc.run_bind, askAll_readonly qs s hne] at hrun
  simp only at hrun
  have hs : s' = s := by
    rw [docByType_readonly q s hne] at hrun
    exact (Prod.mk.inj hrun).1.symm
  subst hs
  exact ⟨rfl, docByType_exact hG hrun⟩

end OdfModel.Props.C09Queries
