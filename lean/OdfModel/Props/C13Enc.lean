/-
  Property C13, the dimension CHARACTER ENCODING OF THE MEMBER (UTF-8 with or without byte order mark, UTF-16 LE / BE with
  byte order mark, 8-bit encodings named by the XML declaration).

  Proved about `OdfModel.EntityEnc`, on top of `OdfModel.Props.C13`: with every member valid UTF-8 `readE` is `read`
  (`readE_utf8`); whatever the encoding of whichever members, an entity-declaring member on the walk of an entry point
  makes the call FAIL (`refuses_any_encoding_partial`, `returnsE_implies_clean_partial`); when it is the only faulty
  member the failure is `UnicodeDecodeError` if the entry point decodes it first (`__loadxmlparts`, `manifestlist`) and
  its bytes are not UTF-8, and `EntitiesForbidden` otherwise (`declares_single_fault`; its cases `explicit_utf8_partial`,
  `explicit_bytes_partial`, `explicit_undecodable_partial`).
  Partial in the same sense as `Props.C13`: the behaviour of defusedxml / expat is the hypothesis `ParserBehaviour`
  (stated on what the DOCTYPE declares, whatever bytes spell it — validated by the encoding fault matrix of harness/c13.py).
-/
import OdfModel.Props.C13
import OdfModel.EntityEnc
namespace OdfModel.Props.C13Enc
open OdfModel OdfModel.Entity OdfModel.ParseSite OdfModel.Props.C13

def liftList : Except Err (List Outcome) → Except ErrE (List Outcome)
  | .error e => .error (.refused e)
  | .ok os => .ok os

theorem readListE_utf8 (B : ParserBehaviour) (P : Prep) (ep : EP) (p : PkgE) (h : p.notUtf8 = []) (ms : List Member) :
    readListE B P ep p ms = liftList (readList B P ep p.pkg ms) := by
  -- no member is undecodable (`h`), so `readMemberE` is `readMember` with the error lifted, case by case
  fun_induction readList B P ep p.pkg ms <;>
    simp_all [readListE, liftList, readMemberE, PkgE.undecodable, liftErr]

/-- **C13 (encoding; conservative extension)**: on a package all of whose members are valid UTF-8 the encoding-aware
    model is the model of `Props.C13`. -/
theorem readE_utf8 (B : ParserBehaviour) (P : Prep) (ep : EP) (p : PkgE) (h : p.notUtf8 = []) :
    readE B P ep p = liftList (read B P ep p.pkg) :=
  readListE_utf8 B P ep p h _

theorem readMemberE_declares (B : ParserBehaviour) (P : Prep) {ep : EP} (p : PkgE) {m : Member} (hm : m ∈ readOrder ep p.pkg)
    (x : XmlMember) (hd : x.declaresEntity = true) :
    readMemberE B P ep p m x = .error (if p.undecodable ep m then .undecodable else .refused .entitiesForbidden) := by
  unfold readMemberE
  rw [readMember_declares B P hm x hd]
  cases p.undecodable ep m <;> rfl

/-- what `readListE` does with one member -/
def actOfE (B : ParserBehaviour) (P : Prep) (ep : EP) (p : PkgE) (m : Member) : Act ErrE :=
  match p.pkg.lookup m.path with
  | none => if skipsMissing ep m then .skip else .fail (.refused .missing)
  | some x => match readMemberE B P ep p m x with
    | .error e => .fail e
    | .ok o => .ok o

theorem readListE_eq_walk (B : ParserBehaviour) (P : Prep) (ep : EP) (p : PkgE) (ms : List Member) :
    readListE B P ep p ms = walk (actOfE B P ep p) ms := by
  fun_induction readListE B P ep p ms <;> simp_all [walk, actOfE]

/-- **C13 (refusal in EVERY encoding; partial: parser behaviour assumed)**: if an entry point reads a member that
    declares an entity, the call does not return — whatever character encoding that member, or any other member of the
    package, is stored in. -/
theorem refuses_any_encoding_partial (B : ParserBehaviour) (P : Prep) (ep : EP) (p : PkgE) (m : Member) (x : XmlMember)
    (hm : m ∈ readOrder ep p.pkg) (hx : p.pkg.lookup m.path = some x) (hd : x.declaresEntity = true) :
    ∃ e, readE B P ep p = .error e := by
  rw [readE, readListE_eq_walk]
  exact walk_fails _ m ⟨_, by simp only [actOfE, hx, readMemberE_declares B P p hm x hd]; rfl⟩ _ hm

/-- contrapositive: a call that returns has met no entity declaration in any member it opened, in any encoding -/
theorem returnsE_implies_clean_partial (B : ParserBehaviour) (P : Prep) (ep : EP) (p : PkgE) (os : List Outcome)
    (h : readE B P ep p = .ok os) (m : Member) (x : XmlMember) (hm : m ∈ readOrder ep p.pkg)
    (hx : p.pkg.lookup m.path = some x) : x.declaresEntity = false :=
  Bool.eq_false_iff.mpr fun hd => by
    obtain ⟨e, he⟩ := refuses_any_encoding_partial B P ep p m x hm hx hd
    rw [he] at h; cases h

theorem readMemberE_clean (B : ParserBehaviour) (P : Prep) {ep : EP} (p : PkgE) {m : Member} (hm : m ∈ readOrder ep p.pkg)
    (hu : p.undecodable ep m = false) : readMemberE B P ep p m XmlMember.clean = .ok ⟨false⟩ := by
  simp only [readMemberE, hu, readMember_clean B P hm]
  rfl

/-- side condition of the single-fault theorems: every OTHER member on the walk is clean and reaches its parser
    (it is valid UTF-8 or is not decoded first), or is absent where the code tolerates absence -/
def OthersCleanE (ep : EP) (p : PkgE) (m : Member) : Prop :=
  ∀ m' ∈ readOrder ep p.pkg, m'.path ≠ m.path →
    (p.pkg.lookup m'.path = none ∧ skipsMissing ep m' = true) ∨
    (p.pkg.lookup m'.path = some XmlMember.clean ∧ p.undecodable ep m' = false)

/-- **C13 (explicit refusal in every encoding)**: the only faulty member declares an entity ⟹ the call fails with
    `UnicodeDecodeError` if the entry point decodes that member first and its bytes are not UTF-8, and with
    `EntitiesForbidden` otherwise.  The three theorems below are its cases. -/
theorem declares_single_fault (B : ParserBehaviour) (P : Prep) (ep : EP) (p : PkgE) (m : Member) (x : XmlMember)
    (hm : m ∈ readOrder ep p.pkg) (hx : p.pkg.lookup m.path = some x) (hd : x.declaresEntity = true)
    (hothers : OthersCleanE ep p m) :
    readE B P ep p = .error (if p.undecodable ep m then .undecodable else .refused .entitiesForbidden) := by
  rw [readE, readListE_eq_walk]
  refine walk_single_fault _ m _ _ hm (fun m' h' hp => ?_) (fun m' h' hp => ?_)
  · have hu : p.undecodable ep m' = p.undecodable ep m := by simp only [PkgE.undecodable, decodesFirst, hp]
    simp only [actOfE, hp, hx, readMemberE_declares B P p h' x hd, hu]
  · rcases hothers m' h' hp with ⟨hl, hs⟩ | ⟨hl, hu⟩
    · exact .inl (by simp only [actOfE, hl, hs, if_true])
    · exact .inr ⟨⟨false⟩, by simp only [actOfE, hl, readMemberE_clean B P p h' hu]⟩

/-- **C13 (explicit refusal, UTF-8 member — with or without byte order mark, whatever its XML declaration names)**:
    the only faulty member declares an entity, is valid UTF-8 and is read ⟹ `EntitiesForbidden`. -/
theorem explicit_utf8_partial (B : ParserBehaviour) (P : Prep) (ep : EP) (p : PkgE) (m : Member) (x : XmlMember)
    (hm : m ∈ readOrder ep p.pkg) (hx : p.pkg.lookup m.path = some x) (hd : x.declaresEntity = true)
    (hu : p.notUtf8.contains m.path = false) (hothers : OthersCleanE ep p m) :
    readE B P ep p = .error (.refused .entitiesForbidden) := by
  rw [declares_single_fault B P ep p m x hm hx hd hothers]
  simp only [PkgE.undecodable, hu, Bool.and_false]
  rfl

/-- **C13 (explicit refusal, the entry point that hands the BYTES to the parser — the MoinMoin converter)**:
    the only faulty member declares an entity ⟹ `EntitiesForbidden`, in EVERY encoding of that member. -/
theorem explicit_bytes_partial (B : ParserBehaviour) (P : Prep) (ep : EP) (hs : ep.shape = .moin) (p : PkgE)
    (m : Member) (x : XmlMember)
    (hm : m ∈ readOrder ep p.pkg) (hx : p.pkg.lookup m.path = some x) (hd : x.declaresEntity = true)
    (hothers : OthersCleanE ep p m) :
    readE B P ep p = .error (.refused .entitiesForbidden) := by
  rw [declares_single_fault B P ep p m x hm hx hd hothers]
  simp [PkgE.undecodable, decodesFirst, hs]

/-- **C13 (explicit refusal, member that is not UTF-8 read through `load`, the manifest readers and everything built
    on them)**: the only faulty member (manifest, content / styles / meta / settings of the main document or of ANY
    embedded object) declares an entity and its bytes are not valid UTF-8 (UTF-16 with byte order mark, 8-bit encoding
    with a non-ASCII byte) ⟹ the call fails with `UnicodeDecodeError`; no parser, defused or not, ever sees the member. -/
theorem explicit_undecodable_partial (B : ParserBehaviour) (P : Prep) (ep : EP) (hs : ep.shape ≠ .moin) (p : PkgE)
    (m : Member) (x : XmlMember)
    (hm : m ∈ readOrder ep p.pkg) (hx : p.pkg.lookup m.path = some x) (hd : x.declaresEntity = true)
    (hu : p.notUtf8.contains m.path = true) (hothers : OthersCleanE ep p m) :
    readE B P ep p = .error .undecodable := by
  rw [declares_single_fault B P ep p m x hm hx hd hothers]
  simp [PkgE.undecodable, decodesFirst, hs, List.contains_iff_mem.mp hu]

/-! ### the hypotheses are satisfiable; what an undefused re-encoding step in front of the parser would do -/

/-- content.xml declares an entity and is stored in UTF-16 -/
def utf16Pkg : PkgE :=
  { pkg := { files := [(Part.manifest.file, XmlMember.clean), (Part.content.file, ⟨true, false⟩), (Part.styles.file, XmlMember.clean)],
             manifest := [[47], Part.content.file, Part.styles.file] },
    notUtf8 := [Part.content.file] }

theorem utf16_load_undecodable : readE observed Prep.id .load utf16Pkg = .error .undecodable := by rfl

theorem utf16_moin_forbidden : readE observed Prep.id .moinInit utf16Pkg = .error (.refused .entitiesForbidden) := by rfl

/-- the same member handed to a plain parser (what a re-encoding pre-pass through `xml.sax` amounts to) expands -/
example : observed.parse .plain ⟨true, false⟩ = .ok ⟨true⟩ := rfl

end OdfModel.Props.C13Enc
