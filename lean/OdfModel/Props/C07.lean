/-
  Property C07 — a refused or failed operation leaves the document untouched.

  The monad `M` of `OdfModel.Dom` hands back the heap AS MUTATED SO FAR together with the exception, so
  `op.run h = (h', .error e) → h' = h` is a statement about the order of checks and assignments in the Python
  source; it fails for a model in which an assignment precedes a `raise` (`atomicity_needs_the_order`).
  Every mutator gets a closed form, for every heap (no invariant assumed), of the shape `if C then (heap
  after, ok) else (the heap it was given, which error)`, every wrapper an equation saying what it checks and
  which mutator it then runs; atomicity is read off these.  The constructor protocol has an invariant of its
  own (`Under`).
-/
import OdfModel.Dom
namespace OdfModel.Props.C07
open OdfModel.Dom
-- `Id` alone would be ambiguous between `Dom.Id` and the identity monad `_root_.Id`, and Lean would elaborate
-- every declaration that mentions it once for each reading; the alias makes the name resolve here first.
export OdfModel.Dom (Id)

@[simp] theorem run_bind_ite {α β} (c : Prop) [Decidable c] (x y : M α) (f : α → M β) (h : Heap) :
    ((if c then x else y) >>= f).run h = if c then (x >>= f).run h else (y >>= f).run h := by
  split <;> rfl

/-! A check in front of a call, `if c then x else (h, .error e)`, is the shape of every closed form and of every
    wrapper's equation, here and at the document level (Props/C09Calls.lean).  Where the check refuses, the state is
    the one it was given: what held before holds after if the call `x` keeps it, and the whole is atomic if `x` is. -/

theorem guard_inv {σ ρ : Type} {P : σ → Prop} {c : Prop} [Decidable c] {s s' : σ} {x : σ × ρ} {r r' : ρ} (hP : P s)
    (hr : (if c then x else (s, r)) = (s', r')) (hx : c → x = (s', r') → P s') : P s' := by
  split at hr
  · exact hx ‹_› hr
  · cases hr; exact hP

theorem unchanged_of_guard {c : Prop} [Decidable c] {h h' : Heap} {x : Heap × Except Err Unit} {e e' : Err}
    (hr : (if c then x else (h, .error e)) = (h', .error e'))
    (hx : x = (h', .error e') → h' = h) : h' = h :=
  guard_inv (P := (· = h)) rfl hr fun _ => hx

theorem unchanged_of_error {c : Prop} [Decidable c] {h k h' : Heap} {e e' : Err}
    (hr : (if c then (k, Except.ok ()) else (h, .error e)) = (h', .error e')) : h' = h :=
  unchanged_of_guard hr nofun

theorem keeps_guard {P : Heap → Prop} {c : Prop} [Decidable c] {h : Heap} {x : Heap × Except Err Unit}
    {r : Except Err Unit} (hP : P h) (hx : c → P x.1) : P (if c then x else (h, r)).1 := by
  split
  · exact hx ‹_›
  · exact hP

/-- the heap after a `removeChild` that does not raise: its six assignments composed -/
def rmHeap (h : Heap) (p c : Id) : Heap :=
  setParent (setPrev (setNext
    (setNextOpt (setPrevOpt (setKids h p ((h p).kids.erase c)) (h c).next (h c).prev) (h c).prev (h c).next)
    c none) c none) c none

theorem removeChild_run (h : Heap) (p c : Id) :
    (removeChild p c).run h =
      if (h p).kind = .elem ∧ c ∈ (h p).kids then (rmHeap h p c, .ok ()) else (h, .error .NotFound) := by
  unfold removeChild rmHeap
  -- `simp` runs the statements: left are the two checks, nested `if`s on the left, one conjunction on the right
  simp
  by_cases h1 : (h p).kind = .elem <;> by_cases h2 : c ∈ (h p).kids <;> simp [h1, h2]

/-- `if c.parentNode is not None: c.parentNode.removeChild(c)` does not raise -/
def DetachOk (h : Heap) (c : Id) : Prop :=
  ∀ q, (h c).parent = some q → (h q).kind = .elem ∧ c ∈ (h q).kids

instance (h : Heap) (c : Id) : Decidable (DetachOk h c) :=
  inferInstanceAs (Decidable (∀ q, q ∈ (h c).parent → (h q).kind = .elem ∧ c ∈ (h q).kids))

/-- the heap after that statement -/
def detach (h : Heap) (c : Id) : Heap :=
  match (h c).parent with
  | some q => rmHeap h q c
  | none => h

/-- the heap after `_append_child(p, c)` -/
def appRawHeap (h : Heap) (p c : Id) : Heap :=
  setParent (setKids
    (match (h p).kids.getLast? with
     | some last => setNext (setPrev h c (some last)) last (some c)
     | none => h) p ((h p).kids ++ [c])) c (some p)

theorem appendRaw_run (h : Heap) (p c : Id) : (appendRaw p c).run h = (appRawHeap h p c, .ok ()) := by
  unfold appendRaw appRawHeap
  rw [run_bind_rd]
  cases (h p).kids.getLast? <;> simp

theorem detachIfAttached_run (h : Heap) (c : Id) :
    (detachIfAttached c).run h = if DetachOk h c then (detach h c, .ok ()) else (h, .error .NotFound) := by
  unfold detachIfAttached DetachOk detach
  rw [run_bind_rd]
  split <;> simp [*, removeChild_run]

/-- a childless receiver refuses with HierarchyRequestErr, the nested `removeChild` with NotFoundErr -/
theorem appendChild_run (h : Heap) (p c : Id) :
    (appendChild p c).run h =
      if (h p).kind = .elem ∧ DetachOk h c then (setNext (appRawHeap (detach h c) p c) c none, .ok ())
      else (h, .error (if (h p).kind = .elem then .NotFound else .Hierarchy)) := by
  unfold appendChild
  by_cases hk : (h p).kind = .elem
  · by_cases hd : DetachOk h c <;> simp [hk, hd, run_bind, detachIfAttached_run, appendRaw_run]
  · simp [hk]

theorem rmHeap_apply (h : Heap) (p c x : Id) : rmHeap h p c x = { h x with
    kids := if x = p then (h p).kids.erase c else (h x).kids
    parent := if x = c then none else (h x).parent
    prev := if x = c then none else if some x = (h c).next then (h c).prev else (h x).prev
    next := if x = c then none else if some x = (h c).prev then (h c).next else (h x).next } := by
  simp [rmHeap]
@[simp] theorem rmHeap_attrs (h : Heap) (p c x : Id) : (rmHeap h p c x).attrs = (h x).attrs := by
  rw [rmHeap_apply]

/-- node `x` after the statements `_append_child(p, c); c.nextSibling = None` of `appendChild` -/
theorem app_apply (h : Heap) (p c x : Id) : setNext (appRawHeap h p c) c none x = { h x with
    kids := if x = p then (h p).kids ++ [c] else (h x).kids
    parent := if x = c then some p else (h x).parent
    prev := if x = c then (h p).kids.getLast?.or (h c).prev else (h x).prev
    next := if x = c then none else if some x = (h p).kids.getLast? then some c else (h x).next } := by
  unfold appRawHeap
  cases (h p).kids.getLast? with
  | some last => simp
  | none =>
    -- `p` has no child yet and `c.previousSibling` is not assigned: left is `x = c → (h x).prev = (h c).prev`
    simp
    rintro rfl; rfl

@[simp] theorem detach_kind (h : Heap) (c x : Id) : (detach h c x).kind = (h x).kind := by
  unfold detach; split
  · rw [rmHeap_apply]
  · rfl
theorem detach_parent (h : Heap) (c x : Id) :
    (detach h c x).parent = if x = c then none else (h x).parent := by
  unfold detach; split
  · rw [rmHeap_apply]
  · split <;> simp_all
theorem detach_parent_self (h : Heap) (c : Id) : (detach h c c).parent = none := by
  rw [detach_parent, if_pos rfl]
theorem detach_of_detached {h : Heap} {c : Id} (hp : (h c).parent = none) : detach h c = h := by
  unfold detach; rw [hp]
theorem mem_kids_detach {h : Heap} {c p r : Id} (hr : r ∈ (h p).kids) (hne : r ≠ c) :
    r ∈ (detach h c p).kids := by
  unfold detach; split
  · rw [rmHeap_apply]; dsimp only; split
    · rename_i e; subst e; exact (List.mem_erase_of_ne hne).mpr hr
    · exact hr
  · exact hr

/-- `refChild is None or refChild in self.childNodes` -/
def RefOk (h : Heap) (p : Id) (ref : Option Id) : Prop := ∀ r, ref = some r → r ∈ (h p).kids

instance (h : Heap) (p : Id) (ref : Option Id) : Decidable (RefOk h p ref) :=
  inferInstanceAs (Decidable (∀ r, r ∈ ref → r ∈ (h p).kids))

theorem checkRef_run (h : Heap) (p : Id) (ref : Option Id) :
    (checkRef p ref).run h = if RefOk h p ref then (h, .ok ()) else (h, .error .NotFound) := by
  unfold checkRef RefOk
  cases ref with
  | none => simp
  | some r => by_cases hr : r ∈ (h p).kids <;> simp [hr]

/-- the heap after the `if index: … else: …` statement -/
def linkPrevHeap (h : Heap) (p n : Id) (index : Nat) : Heap :=
  if index = 0 then setPrev h n none
  else match (h p).kids[index - 1]? with
    | some node => setPrev (setNext h node (some n)) n (some node)
    | none => h

theorem linkPrev_run (h : Heap) (p n : Id) (index : Nat) :
    (linkPrev p n index).run h =
      if index ≠ 0 ∧ (h p).kids[index - 1]? = none then (h, .error .Other)
      else (linkPrevHeap h p n index, .ok ()) := by
  unfold linkPrev linkPrevHeap
  by_cases hi : index = 0
  · simp [hi]
  · simp only [run_ite, run_bind_rd]
    cases (h p).kids[index - 1]? <;> simp [hi]

/-- the heap after the `else:` branch of insertBefore -/
def insHeap (h : Heap) (p n r : Id) : Heap :=
  let index := (h p).kids.idxOf r
  let h1 := setPrev (setNext (setKids h p ((h p).kids.insertIdx index n)) n (some r)) r (some n)
  setParent (linkPrevHeap h1 p n index) n (some p)

theorem getElem?_pred_insertIdx (l : List Id) (n : Id) {i : Nat} (hi : i ≤ l.length) :
    (l.insertIdx i n)[i - 1]? ≠ none := by
  rw [Ne, List.getElem?_eq_none_iff, List.length_insertIdx_of_le_length hi]
  omega

theorem insertAtRef_run (h : Heap) (p n r : Id) :
    (insertAtRef p n r).run h =
      if r ∈ (h p).kids then (insHeap h p n r, .ok ()) else (h, .error .NotFound) := by
  unfold insertAtRef insHeap
  by_cases hr : r ∈ (h p).kids
  · -- the IndexError of `linkPrev` cannot happen: the list has just grown at `index`
    have key := getElem?_pred_insertIdx _ n (Nat.le_of_lt (List.idxOf_lt_length_of_mem hr))
    simp [hr, run_bind, linkPrev_run, key]
  · simp [hr]

theorem idxOf_split (l1 l2 : List Id) (r : Id) (hr : r ∉ l1) : (l1 ++ r :: l2).idxOf r = l1.length := by
  rw [List.idxOf_append]; simp [hr]

theorem insertIdx_split (l1 l2 : List Id) (n : Id) : (l1 ++ l2).insertIdx l1.length n = l1 ++ n :: l2 := by
  induction l1 with
  | nil => simp
  | cons a l ih => simp [ih]

/-- every field of a node after `insHeap` except `prev` / `next`, whatever the child list looks like (`ins_apply` gives
    all fields, once it is known where `r` stands in the list) -/
theorem insHeap_apply (h : Heap) (p n r x : Id) : insHeap h p n r x = { h x with
    kids := if x = p then (h p).kids.insertIdx ((h p).kids.idxOf r) n else (h x).kids
    parent := if x = n then some p else (h x).parent
    prev := (insHeap h p n r x).prev
    next := (insHeap h p n r x).next } := by
  unfold insHeap linkPrevHeap
  simp only
  split
  · simp
  · split <;> simp

theorem ins_apply {h : Heap} {p n r : Id} {l1 l2 : List Id}
    (hsplit : (h p).kids = l1 ++ r :: l2) (hr : r ∉ l1) (hn : n ∉ l1) (x : Id) : insHeap h p n r x = { h x with
    kids := if x = p then l1 ++ n :: r :: l2 else (h x).kids
    parent := if x = n then some p else (h x).parent
    prev := if x = n then l1.getLast? else if x = r then some n else (h x).prev
    next := if x = n then some r else if some x = l1.getLast? then some n else (h x).next } := by
  unfold insHeap linkPrevHeap
  simp only [hsplit, idxOf_split l1 l2 r hr, insertIdx_split]
  cases hl : l1.getLast? with
  | none =>
    have : l1 = [] := List.getLast?_eq_none_iff.mp hl
    subst this; simp
  | some z =>
    -- `l1 = l' ++ [z]`: the node before position `l1.length` is `z`, which is not `n`
    obtain ⟨l', rfl⟩ := List.getLast?_eq_some_iff.mp hl
    have hz : z ≠ n := fun e => hn (by simp [e])
    by_cases hxn : x = n
    · subst hxn; simp [Ne.symm hz]
    · simp [hxn, eq_comm]

/-- the heap after an `insertBefore` that goes through -/
def insertedHeap (h : Heap) (p n : Id) (ref : Option Id) : Heap :=
  if ref = some n then h else
  match ref with
  | none => setNext (appRawHeap (detach h n) p n) n none
  | some r => insHeap (detach h n) p n r

theorem insertedHeap_self (h : Heap) (p n : Id) : insertedHeap h p n (some n) = h := if_pos rfl
theorem insertedHeap_none (h : Heap) (p n : Id) :
    insertedHeap h p n none = setNext (appRawHeap (detach h n) p n) n none := rfl
theorem insertedHeap_some (h : Heap) (p n : Id) {r : Id} (hne : r ≠ n) :
    insertedHeap h p n (some r) = insHeap (detach h n) p n r :=
  if_neg fun e => hne (Option.some.inj e)

theorem insertedHeap_parent {h : Heap} {p n : Id} {ref : Option Id} (hne : ref ≠ some n) (x : Id) :
    (insertedHeap h p n ref x).parent = if x = n then some p else (h x).parent := by
  cases ref with
  | none => rw [insertedHeap_none, app_apply]; dsimp only; rw [detach_parent]; split <;> rfl
  | some r =>
    rw [insertedHeap_some h p n (fun e => hne (by rw [e])), insHeap_apply]; dsimp only; rw [detach_parent]
    split <;> rfl

/-- The reference check precedes the detachment of the new child; after that detachment neither the second
    `index` lookup nor the nested `appendChild` can raise. -/
theorem insertBefore_run (h : Heap) (p n : Id) (ref : Option Id) :
    (insertBefore p n ref).run h =
      if (h p).kind = .elem ∧ RefOk h p ref ∧ (ref = some n ∨ DetachOk h n) then (insertedHeap h p n ref, .ok ())
      else (h, .error (if (h p).kind = .elem then .NotFound else .Hierarchy)) := by
  unfold insertBefore
  by_cases hk : (h p).kind = .elem
  · simp only [run_bind_rd, hk, ne_eq, not_true, if_false]
    rw [run_bind, checkRef_run]
    by_cases hro : RefOk h p ref
    · simp only [hro, if_true, true_and]
      by_cases hn : ref = some n
      · subst hn; simp [insertedHeap_self]
      · simp only [hn, if_false, false_or]
        rw [run_bind, detachIfAttached_run]
        by_cases hd : DetachOk h n
        · simp only [hd, if_true]
          cases ref with
          | none =>
            -- the nested `appendChild` finds an element receiver and nothing left to detach
            have hp := detach_parent_self h n
            simp [insertedHeap_none, appendChild_run, hk, DetachOk, hp, detach_of_detached hp]
          | some r =>
            have hne : r ≠ n := fun e => hn (by rw [e])
            simp [insertedHeap_some h p n hne, insertAtRef_run, mem_kids_detach (hro r rfl) hne]
        · simp [hd]
    · simp [hro]
  · simp [hk]

/-- without a reference child `insertBefore` is `appendChild` (the second detachment finds nothing to do) -/
theorem insertBefore_none_run (h : Heap) (p c : Id) :
    (insertBefore p c none).run h = (appendChild p c).run h := by
  rw [insertBefore_run, appendChild_run, insertedHeap_none]
  simp [RefOk]

/-- **C07 (removeChild)**: a `removeChild` that raises has changed nothing. -/
theorem removeChild_atomic {h h' : Heap} {p c : Id} {e : Err}
    (hr : (removeChild p c).run h = (h', .error e)) : h' = h :=
  unchanged_of_error (removeChild_run h p c ▸ hr)

/-- **C07 (appendChild)**: an `appendChild` that raises (childless receiver; the nested
    `removeChild`) has changed nothing. -/
theorem appendChild_atomic {h h' : Heap} {p c : Id} {e : Err}
    (hr : (appendChild p c).run h = (h', .error e)) : h' = h :=
  unchanged_of_error (appendChild_run h p c ▸ hr)

/-- **C07 (insertBefore)**: an `insertBefore` that raises — in particular because the reference
    node is not a child — has changed nothing: the new child is still where it was. -/
theorem insertBefore_atomic {h h' : Heap} {p n : Id} {ref : Option Id} {e : Err}
    (hr : (insertBefore p n ref).run h = (h', .error e)) : h' = h :=
  unchanged_of_error (insertBefore_run h p n ref ▸ hr)

/-- which exception, and when -/
theorem removeChild_error_iff (h : Heap) (p c : Id) :
    ((removeChild p c).run h).2 = .error .NotFound ↔ ¬ ((h p).kind = .elem ∧ c ∈ (h p).kids) := by
  rw [removeChild_run]; split <;> simp [*]

theorem initNode_run (h : Heap) (i : Id) (k : Kind) (qn : Nat) :
    (initNode i k qn).run h = (h.set i { kind := k, qn := qn }, .ok ()) := rfl

theorem fresh_run (h : Heap) (i : Id) :
    (fresh i).run h = if Blank h i then (h, .ok ()) else (h, .error .Other) := by
  unfold fresh
  by_cases hb : Blank h i <;> simp [hb]

/-- a creating operation of `step` first checks that the id is unused -/
theorem fresh_bind_run (m : M Unit) (h : Heap) (i : Id) :
    (fresh i >>= fun _ => m).run h = if Blank h i then m.run h else (h, .error .Other) := by
  rw [run_bind, fresh_run]
  by_cases hb : Blank h i <;> simp [hb]

/-- a new object at an unused id has no parent, as the unused id had none -/
theorem initHeap_parent {h : Heap} {i : Id} (hb : Blank h i) (k : Kind) (qn : Nat) (y : Id) :
    ((h.set i { kind := k, qn := qn }) y).parent = (h y).parent := by
  rw [Heap.set_apply]; split
  · rename_i e; subst e; exact hb.1.symm
  · rfl

/-- a new object has no links; the other ids keep theirs -/
theorem blank_initHeap {h : Heap} {j : Id} (hb : Blank h j) (i : Id) (k : Kind) (qn : Nat) :
    Blank (h.set i { kind := k, qn := qn }) j := by
  unfold Blank
  rw [Heap.set_apply]; split
  · exact ⟨rfl, rfl⟩
  · exact hb

theorem blank_rmHeap {h : Heap} {g : Id} (hb : Blank h g) (p c : Id) : Blank (rmHeap h p c) g := by
  unfold Blank
  rw [rmHeap_apply]
  dsimp only
  constructor <;> split
  · rfl
  · exact hb.1
  · rename_i e; rw [← e, hb.2]; rfl
  · exact hb.2

theorem addElement_run (h : Heap) (p c : Id) (a : Bool) :
    (addElement p c a).run h = if a then (appendChild p c).run h else (h, .error .IllegalChild) := by
  cases a <;> simp [addElement]

theorem addText_run (h : Heap) (p t : Id) (a ne : Bool) :
    (addText p t a ne).run h =
      if a then
        if ne then (appendChild p t).run (h.set t { kind := .text, qn := 0 }) else (h, .ok ())
      else (h, .error .IllegalText) := by
  cases a <;> cases ne <;> simp [addText, run_bind, initNode_run]

theorem addCDATA_run (h : Heap) (p t : Id) (a : Bool) :
    (addCDATA p t a).run h =
      if a then (appendChild p t).run (h.set t { kind := .cdata, qn := 0 }) else (h, .error .IllegalText) := by
  cases a <;> simp [addCDATA, run_bind, initNode_run]

theorem setAttrNS_run (h : Heap) (e key : Nat) (conv : Except Err Nat) :
    (setAttrNS e key conv).run h = match conv with
      | .ok v => (setAttrs h e (storeAttr key v (h e).attrs), .ok ())
      | .error x => (h, .error x) := by
  cases conv <;> rfl

/-- the attribute name is accepted: known to the grammar, or (no grammar entry) given as a pair -/
theorem setAttribute_run (h : Heap) (e : Id) (known isTuple allowed : Bool) (key : Nat) (conv : Except Err Nat) :
    (setAttribute e known isTuple allowed key conv).run h =
      if (bif known then allowed else isTuple) then (setAttrNS e key conv).run h
      else (h, .error .AttributeError) := by
  cases known <;> cases isTuple <;> cases allowed <;> simp [setAttribute]

theorem removeAttribute_run (h : Heap) (e : Id) (known isTuple allowed : Bool) (key : Nat) :
    (removeAttribute e known isTuple allowed key).run h =
      if (bif known then allowed else isTuple) then
        if lookupAttr key (h e).attrs = none then (h, .error .KeyError)
        else (setAttrs h e (dropAttr key (h e).attrs), .ok ())
      else (h, .error .AttributeError) := by
  unfold removeAttribute
  simp only [run_bind_raise, run_bind_rd, run_ite, run_upd]
  cases known <;> cases isTuple <;> cases allowed <;> rfl

theorem setAttrNS_keeps {P : Heap → Prop} {h : Heap} {e : Id} (hP : P h) (hs : ∀ v, P (setAttrs h e v)) (key : Nat)
    (conv : Except Err Nat) : P ((setAttrNS e key conv).run h).1 := by
  rw [setAttrNS_run]
  split
  · exact hs _
  · exact hP

theorem setAttribute_keeps {P : Heap → Prop} {h : Heap} {e : Id} (hP : P h) (hs : ∀ v, P (setAttrs h e v))
    (known isTuple allowed : Bool) (key : Nat) (conv : Except Err Nat) :
    P ((setAttribute e known isTuple allowed key conv).run h).1 := by
  rw [setAttribute_run]
  exact keeps_guard hP fun _ => setAttrNS_keeps hP hs key conv

theorem removeAttribute_keeps {P : Heap → Prop} {h : Heap} {e : Id} (hP : P h) (hs : ∀ v, P (setAttrs h e v))
    (known isTuple allowed : Bool) (key : Nat) : P ((removeAttribute e known isTuple allowed key).run h).1 := by
  rw [removeAttribute_run]
  refine keeps_guard hP fun _ => ?_
  split
  · exact hP
  · exact hs _

/-- after `Text(data)` / `CDATASection(data)` the append that follows cannot raise: the receiver is an
    element and the new node is detached -/
theorem appendChild_new_run (h : Heap) (p t : Id) (k : Kind) (hk : (h p).kind = .elem) (hne : t ≠ p) :
    (appendChild p t).run (h.set t { kind := k, qn := 0 }) =
      (setNext (appRawHeap (h.set t { kind := k, qn := 0 }) p t) t none, .ok ()) := by
  have hpar : ((h.set t { kind := k, qn := 0 }) t).parent = none := by simp
  have hd : DetachOk (h.set t { kind := k, qn := 0 }) t := fun q hq => by rw [hpar] at hq; cases hq
  rw [appendChild_run, Heap.set_other _ _ _ _ (Ne.symm hne), if_pos ⟨hk, hd⟩, detach_of_detached hpar]

/-- **C07 (addElement)**: refused by the grammar (IllegalChild) or by the DOM: nothing changed. -/
theorem addElement_atomic {h h' : Heap} {p c : Id} {allowed : Bool} {e : Err}
    (hr : (addElement p c allowed).run h = (h', .error e)) : h' = h :=
  unchanged_of_guard (addElement_run h p c allowed ▸ hr) appendChild_atomic

/-- **C07 (addText)**: text refused (IllegalText): nothing changed.  `p` is an element (only
    `Element` has `addText`) and the new Text object is not the receiver. -/
theorem addText_atomic {h h' : Heap} {p t : Id} {allowsText nonempty : Bool} {e : Err}
    (hk : (h p).kind = .elem) (hne : t ≠ p)
    (hr : (addText p t allowsText nonempty).run h = (h', .error e)) : h' = h := by
  rw [addText_run, appendChild_new_run h p t .text hk hne] at hr
  exact unchanged_of_guard hr fun hx => by split at hx <;> cases hx

/-- **C07 (addCDATA)** -/
theorem addCDATA_atomic {h h' : Heap} {p t : Id} {allowsText : Bool} {e : Err}
    (hk : (h p).kind = .elem) (hne : t ≠ p)
    (hr : (addCDATA p t allowsText).run h = (h', .error e)) : h' = h := by
  rw [addCDATA_run, appendChild_new_run h p t .cdata hk hne] at hr
  exact unchanged_of_error hr

/-- **C07 (setAttrNS)**: a value the converter rejects is not stored, the old value stays. -/
theorem setAttrNS_atomic {h h' : Heap} {el : Id} {key : Nat} {conv : Except Err Nat} {e : Err}
    (hr : (setAttrNS el key conv).run h = (h', .error e)) : h' = h := by
  rw [setAttrNS_run] at hr
  split at hr <;> cases hr; rfl

/-- **C07 (setAttribute)**: unknown attribute name or invalid value: nothing changed. -/
theorem setAttribute_atomic {h h' : Heap} {el : Id} {known isTuple allowed : Bool} {key : Nat}
    {conv : Except Err Nat} {e : Err}
    (hr : (setAttribute el known isTuple allowed key conv).run h = (h', .error e)) : h' = h :=
  unchanged_of_guard (setAttribute_run .. ▸ hr) setAttrNS_atomic

/-- **C07 (removeAttribute)** -/
theorem removeAttribute_atomic {h h' : Heap} {el : Id} {known isTuple allowed : Bool} {key : Nat} {e : Err}
    (hr : (removeAttribute el known isTuple allowed key).run h = (h', .error e)) : h' = h := by
  rw [removeAttribute_run] at hr
  exact unchanged_of_guard hr fun hx => by split at hx <;> cases hx; rfl

/-- the receiver of `addText` / `addCDATA` is an element (only `Element` has these methods) and the
    Text / CDATASection object created inside the call is not the receiver -/
def Sane (h : Heap) : Op → Prop
  | .addText p t _ _ => (h p).kind = .elem ∧ t ≠ p
  | .addCDATA p t _ => (h p).kind = .elem ∧ t ≠ p
  | _ => True

/-- **C07 (every entry point of an edit history)**: whatever the operation and whatever the
    exception, a call that raises leaves the heap — links, child lists, attributes of every node —
    exactly as it was. -/
theorem step_atomic {h h' : Heap} {op : Op} {e : Err} (hs : Sane h op)
    (hr : (step op).run h = (h', .error e)) : h' = h := by
  cases op with
  | newNode i k qn => exact unchanged_of_error (fresh_bind_run _ h i ▸ hr)
  | append p c => exact appendChild_atomic hr
  | insertBefore p n ref => exact insertBefore_atomic hr
  | remove p c => exact removeChild_atomic hr
  | addElement p c a => exact addElement_atomic hr
  | addText p t a ne => exact unchanged_of_guard (fresh_bind_run _ h t ▸ hr) (addText_atomic hs.1 hs.2)
  | addCDATA p t a => exact unchanged_of_guard (fresh_bind_run _ h t ▸ hr) (addCDATA_atomic hs.1 hs.2)
  | setAttribute el k t a key conv => exact setAttribute_atomic hr
  | setAttrNS el key conv => exact setAttrNS_atomic hr
  | removeAttribute el k t a key => exact removeAttribute_atomic hr

/-- **C07 (histories)**: a refused call can be deleted from an edit history without changing the
    final document. -/
theorem refused_call_is_skippable {h h' : Heap} {op : Op} {e : Err} (hs : Sane h op)
    (hr : (step op).run h = (h', .error e)) (rest : List Op) :
    runOps h (op :: rest) = runOps h rest := by
  have : ((step op).run h).1 = h := by rw [hr]; exact step_atomic hs hr
  simp [runOps, this]

/-! ### the constructor protocol: `Factory(text=…, attr=…, parent=p)`

  The new object (and the Text / CDATASection it may have been given) is mutated freely while
  it is being built; the document is "everything else".  `S` is the set of the new ids; `Under` adds that
  the children of the new element are new too, because an append writes to the last child. -/

/-- `m` keeps `P`, whether it succeeds or raises -/
def Keeps (P : Heap → Prop) (m : M Unit) : Prop := ∀ h, P h → P (m.run h).1

theorem Keeps.pure (P : Heap → Prop) : Keeps P (pure ()) := fun _ hP => hP

theorem Keeps.seq {P : Heap → Prop} {m k : M Unit} (hm : Keeps P m) (hk : Keeps P k) :
    Keeps P (m >>= fun _ => k) := by
  intro h hP
  have hP2 := hm h hP
  rw [run_bind]
  rcases hrun : m.run h with ⟨h2, (e | u)⟩ <;> rw [hrun] at hP2
  · exact hP2
  · exact hk h2 hP2

/-- if `m` raises on a heap with `P`, the heap it hands back has `P`; nothing is asked of a run that succeeds -/
def StopsIn (P : Heap → Prop) (m : M Unit) : Prop := ∀ h h' e, P h → m.run h = (h', .error e) → P h'

theorem Keeps.seq_stops {P : Heap → Prop} {m k : M Unit} (hm : Keeps P m) (hk : StopsIn P k) :
    StopsIn P (m >>= fun _ => k) := by
  intro h h' e hP hr
  have hP2 := hm h hP
  rw [run_bind] at hr
  rcases hrun : m.run h with ⟨h2, (e2 | u)⟩ <;> rw [hrun] at hr hP2
  · cases hr; exact hP2
  · exact hk h2 h' e hP2 hr

/-- while the element `el` is being built on the document `h0` -/
structure Under (S : Id → Prop) (el : Id) (h0 h : Heap) : Prop where
  outside : ∀ x, ¬ S x → h x = h0 x
  elem : (h el).kind = .elem
  kids : ∀ k ∈ (h el).kids, S k

section
variable {S : Id → Prop} {self : Id} {h0 : Heap} (hS : S self)
include hS

/-- appending a just-created node to the element under construction: written to are the new node, `self`
    and the last child of `self`, which is a new node too -/
theorem under_appendNew {t : Id} (hT : S t) (hne : t ≠ self) (k : Kind) {h : Heap} (hU : Under S self h0 h) :
    Under S self h0 ((appendChild self t).run (h.set t { kind := k, qn := 0 })).1 := by
  rw [appendChild_new_run h self t k hU.elem hne]
  have hself : (h.set t { kind := k, qn := 0 }) self = h self := Heap.set_other _ _ _ _ (Ne.symm hne)
  refine ⟨fun x hx => ?_, ?_, fun c hc => ?_⟩
  · have hxt : x ≠ t := fun e => hx (e ▸ hT)
    have hxs : x ≠ self := fun e => hx (e ▸ hS)
    have hxl : some x ≠ (h self).kids.getLast? := fun e => hx (hU.kids x (List.mem_of_getLast? e.symm))
    rw [← hU.outside x hx, app_apply]
    simp [hself, hxt, hxs, hxl, Heap.set_other _ _ _ _ hxt]
  · rw [app_apply]; simp [hself, hU.elem]
  · rw [app_apply] at hc
    simp only [hself, if_true] at hc
    rcases List.mem_append.mp hc with hc | hc
    · exact hU.kids c hc
    · rw [List.mem_singleton.mp hc]; exact hT

theorem keeps_addText {t : Id} (hT : S t) (hne : t ≠ self) (a ne : Bool) :
    Keeps (Under S self h0) (addText self t a ne) := by
  intro h hU
  rw [addText_run]
  exact keeps_guard hU fun _ => keeps_guard hU fun _ => under_appendNew hS hT hne .text hU

theorem keeps_addCDATA {t : Id} (hT : S t) (hne : t ≠ self) (a : Bool) :
    Keeps (Under S self h0) (addCDATA self t a) := by
  intro h hU
  rw [addCDATA_run]
  exact keeps_guard hU fun _ => under_appendNew hS hT hne .cdata hU

theorem under_setAttrs {h : Heap} (hU : Under S self h0 h) (v : List (Nat × Nat)) :
    Under S self h0 (setAttrs h self v) :=
  ⟨fun x hx => by rw [← hU.outside x hx]; simp [show x ≠ self from fun e => hx (e ▸ hS)],
   by simpa using hU.elem, by simpa using hU.kids⟩

theorem keeps_applyAttr (a : AttrArg) : Keeps (Under S self h0) (applyAttr self a) := fun h hU => by
  cases a with
  | viaSet k t al key conv => exact setAttribute_keeps hU (under_setAttrs hS hU) k t al key conv
  | viaNS key conv => exact setAttrNS_keeps hU (under_setAttrs hS hU) key conv
  | raw key val => exact under_setAttrs hS hU _

theorem keeps_applyAttrs (l : List AttrArg) : Keeps (Under S self h0) (applyAttrs self l) := by
  induction l with
  | nil => exact Keeps.pure _
  | cons a r ih => exact Keeps.seq (keeps_applyAttr hS a) ih
end

/-- the required-attribute loop only reads -/
theorem keeps_checkRequired (P : Heap → Prop) (e : Id) (l : List Nat) : Keeps P (checkRequired e l) := by
  induction l with
  | nil => exact Keeps.pure _
  | cons r rs ih =>
    intro h hP
    unfold checkRequired
    by_cases hr : lookupAttr r (h e).attrs = none <;> simp [hr, hP, ih h hP]

/-- **C07 (constructor with `parent=`)**: if a factory call raises — text or cdata refused,
    unknown attribute, invalid value, required attribute missing, or the parent refusing the
    element — then every node other than the objects created by the call itself (the element,
    its text / CDATA node) is exactly as before: the parent's child list, the links of its
    children, all attributes.  The attach is the last statement and is itself atomic. -/
theorem construct_atomic {h h' : Heap} {self qn : Nat} {allowsText : Bool}
    {text : Option (Id × Bool)} {cdata : Option Id} {attrs : List AttrArg} {required : List Nat}
    {parent : Option (Id × Bool)} {e : Err}
    (hts : ∀ t ne, text = some (t, ne) → t ≠ self) (hcs : ∀ c, cdata = some c → c ≠ self)
    (hr : (construct self qn allowsText text cdata attrs required parent).run h = (h', .error e)) :
    ∀ x, x ≠ self → (∀ t ne, text = some (t, ne) → x ≠ t) → (∀ c, cdata = some c → x ≠ c) →
      h' x = h x := by
  let S : Id → Prop := fun x => x = self ∨ (∃ t ne, text = some (t, ne) ∧ x = t) ∨ (∃ c, cdata = some c ∧ x = c)
  have hS : S self := Or.inl rfl
  rw [construct, run_bind, initNode_run] at hr
  have hattach : StopsIn (Under S self h) (ctorAttach self parent) := by
    intro h2 h3 e hU2 hr2
    cases parent with
    | none => cases hr2
    | some pa => rw [addElement_atomic hr2]; exact hU2
  have hU0 : Under S self h (h.set self { kind := .elem, qn := qn }) :=
    ⟨fun y hy => Heap.set_other _ _ _ _ (fun e => hy (e ▸ hS)), by simp, by simp⟩
  have hText : Keeps (Under S self h) (ctorText self allowsText text) := by
    cases htx : text with
    | none => exact Keeps.pure _
    | some tn => exact keeps_addText hS (Or.inr (Or.inl ⟨tn.1, tn.2, htx, rfl⟩)) (hts _ _ htx) _ _
  have hCData : Keeps (Under S self h) (ctorCData self allowsText cdata) := by
    cases hcx : cdata with
    | none => exact Keeps.pure _
    | some c => exact keeps_addCDATA hS (Or.inr (Or.inr ⟨c, hcx, rfl⟩)) (hcs c hcx) _
  -- every statement but the last keeps `Under`, succeeding or raising; the attach, last, is atomic
  have hU : Under S self h h' :=
    (hText.seq_stops <| hCData.seq_stops <| (keeps_applyAttrs hS attrs).seq_stops <|
      (keeps_checkRequired _ self required).seq_stops hattach) _ _ _ hU0 hr
  intro x hx1 hx2 hx3
  refine hU.outside x ?_
  rintro (hs | ⟨t, ne, ht, hs⟩ | ⟨c, hc, hs⟩)
  · exact hx1 hs
  · exact hx2 t ne ht hs
  · exact hx3 c hc hs

/-- **C07 ("an element whose construction was refused is never found in the document")**: after a
    refused factory call no node of the document lists the refused element as a child (in
    particular not the `parent=` it was given), provided none did before (the object is new). -/
theorem refused_not_found {h h' : Heap} {self qn : Nat} {allowsText : Bool}
    {text : Option (Id × Bool)} {cdata : Option Id} {attrs : List AttrArg} {required : List Nat}
    {parent : Option (Id × Bool)} {e : Err}
    (hts : ∀ t ne, text = some (t, ne) → t ≠ self) (hcs : ∀ c, cdata = some c → c ≠ self)
    (hnew : ∀ q, self ∉ (h q).kids)
    (hr : (construct self qn allowsText text cdata attrs required parent).run h = (h', .error e)) :
    ∀ q, q ≠ self → (∀ t ne, text = some (t, ne) → q ≠ t) → (∀ c, cdata = some c → q ≠ c) →
      self ∉ (h' q).kids := by
  intro q h1 h2 h3
  rw [construct_atomic hts hcs hr q h1 h2 h3]
  exact hnew q

/-- **C07 (wrapper factory `StyleRefElement`, refused `stylename=` / `classnames=`)**: the style
    arguments are checked before the element exists — the heap is literally unchanged. -/
theorem styleRefConstruct_refused_args {h : Heap} {e : Err} {self qn : Nat} {allowsText : Bool}
    {text : Option (Id × Bool)} {cdata : Option Id} {attrs : List AttrArg} {required : List Nat}
    {parent : Option (Id × Bool)} :
    (styleRefConstruct (.error e) self qn allowsText text cdata attrs required parent).run h = (h, .error e) := by
  unfold styleRefConstruct; simp

/-- **C07 (wrapper factory `StyleRefElement` with `parent=`)**: whatever makes the call raise,
    every node other than the objects created by the call itself is exactly as before. -/
theorem styleRefConstruct_atomic {h h' : Heap} {pre : Except Err Unit} {self qn : Nat} {allowsText : Bool}
    {text : Option (Id × Bool)} {cdata : Option Id} {attrs : List AttrArg} {required : List Nat}
    {parent : Option (Id × Bool)} {e : Err}
    (hts : ∀ t ne, text = some (t, ne) → t ≠ self) (hcs : ∀ c, cdata = some c → c ≠ self)
    (hr : (styleRefConstruct pre self qn allowsText text cdata attrs required parent).run h = (h', .error e)) :
    ∀ x, x ≠ self → (∀ t ne, text = some (t, ne) → x ≠ t) → (∀ c, cdata = some c → x ≠ c) →
      h' x = h x := by
  unfold styleRefConstruct at hr
  cases pre with
  | error e0 => cases hr; exact fun _ _ _ _ => rfl
  | ok u => exact construct_atomic hts hcs hr

/-- `insertBefore` with the statement order `detach the new child, then look for the reference child` (the order odfpy
    had before its repair 77f9994) -/
def insertBeforeDetachFirst (p n : Id) (ref : Option Id) : M Unit := do
  if (← rd fun h => (h p).kind) ≠ .elem then raise .Hierarchy
  detachIfAttached n
  match ref with
  | none => appendChild p n
  | some r => insertAtRef p n r

/-- `setAttrNS` storing the raw value before the converter has accepted it -/
def setAttrNSStoreFirst (e : Id) (key raw : Nat) (conv : Except Err Nat) : M Unit := do
  upd fun h => setAttrs h e (storeAttr key raw (h e).attrs)
  match conv with
  | .error x => raise x
  | .ok v => upd fun h => setAttrs h e (storeAttr key v (h e).attrs)

/-- four elements, node 1 a child of node 0 -/
def demoHeap : Heap :=
  runOps Heap.empty [.newNode 0 .elem 0, .newNode 1 .elem 0, .newNode 2 .elem 0, .newNode 3 .elem 0, .append 0 1]

/-- in the same monad, the other statement order is NOT atomic: `2.insertBefore(1, 3)` raises
    NotFoundErr (3 is not a child of 2) and node 1 has silently left its parent 0.  So
    `insertBefore_atomic` is a fact about the source order, not a property of the modelling. -/
theorem atomicity_needs_the_order :
    ((insertBeforeDetachFirst 2 1 (some 3)).run demoHeap).2 = .error .NotFound ∧
    (((insertBeforeDetachFirst 2 1 (some 3)).run demoHeap).1 0).kids ≠ (demoHeap 0).kids := by
  refine ⟨by rfl, by decide +kernel⟩

/-- likewise for "store, then convert" -/
theorem atomicity_needs_convert_first :
    ((setAttrNSStoreFirst 0 7 8 (.error .ValueError)).run demoHeap).2 = .error .ValueError ∧
    (((setAttrNSStoreFirst 0 7 8 (.error .ValueError)).run demoHeap).1 0).attrs ≠ (demoHeap 0).attrs := by
  refine ⟨by rfl, by decide +kernel⟩

/-- non-vacuity: the real `insertBefore` does raise on that input (and, by `insertBefore_atomic`,
    leaves node 1 under node 0) -/
example : ((insertBefore 2 1 (some 3)).run demoHeap).2 = .error .NotFound := by rfl
example : (((insertBefore 2 1 (some 3)).run demoHeap).1 0).kids = [1] := by decide +kernel

/-- non-vacuity of `construct_atomic`: `H(text='…', parent=0)` without its required attribute 5
    raises AttributeError after its Text node 11 was created; the parent 0 still has the single
    child 1 -/
example : ((construct 10 0 true (some (11, true)) none [] [5] (some (0, true))).run demoHeap).2
    = .error .AttributeError := by rfl
example : (((construct 10 0 true (some (11, true)) none [] [5] (some (0, true))).run demoHeap).1 0).kids = [1] := by
  decide +kernel
/-- … and the same call with the attribute present attaches the element last -/
example : (((construct 10 0 true (some (11, true)) none [.viaNS 5 (.ok 1)] [5] (some (0, true))).run demoHeap).1 0).kids
    = [1, 10] := by decide +kernel

/-- **C07 (stale reference child)**: whatever the reference node's own parent pointer says — a shallow copy of a
    child, a child struck from the list by hand, a node whose `parentNode` was assigned — if it is not in the
    receiver's child list, `insertBefore` raises NotFoundErr and returns the heap it was given: the new child has
    not left the place it had. -/
theorem insertBefore_stale_ref (h : Heap) (p n r : Id) (hk : (h p).kind = .elem) (hr : r ∉ (h p).kids) :
    (insertBefore p n (some r)).run h = (h, .error .NotFound) := by
  rw [insertBefore_run]
  simp [hk, RefOk, hr]

/-- **C07 (stale child)**: likewise `removeChild` of a node that is in no child list of the receiver. -/
theorem removeChild_stale (h : Heap) (p c : Id) (hr : c ∉ (h p).kids) :
    (removeChild p c).run h = (h, .error .NotFound) := by
  rw [removeChild_run]
  simp [hr]

/-- `insertBefore` deciding "is refChild my child" by the reference node's parent POINTER instead of by
    membership of the child list -/
def insertBeforeByParentPointer (p n : Id) (ref : Option Id) : M Unit := do
  if (← rd fun h => (h p).kind) ≠ .elem then raise .Hierarchy
  match ref with
  | some r => if (← rd fun h => (h r).parent) ≠ some p then raise .NotFound
  | none => pure ()
  if ref = some n then
    pure ()
  else
    detachIfAttached n
    match ref with
    | none => appendChild p n
    | some r => insertAtRef p n r

/-- `demoHeap` after `node3.parentNode = node2` by hand: node 3 says it is a child of node 2, node 2 has no children -/
def ghostHeap : Heap := setParent demoHeap 3 (some 2)

/-- the pointer test is NOT atomic: `2.insertBefore(1, 3)` on `ghostHeap` passes the test, detaches node 1 from its
    parent 0 and only then fails to find node 3 in the child list.  `insertBefore_atomic` rests on the membership test. -/
theorem atomicity_needs_the_membership_test :
    ((insertBeforeByParentPointer 2 1 (some 3)).run ghostHeap).2 = .error .NotFound ∧
    (((insertBeforeByParentPointer 2 1 (some 3)).run ghostHeap).1 0).kids ≠ (ghostHeap 0).kids := by
  refine ⟨by rfl, by decide +kernel⟩

/-- non-vacuity: the real `insertBefore` refuses that call too, and node 1 stays under node 0 -/
example : ((insertBefore 2 1 (some 3)).run ghostHeap).2 = .error .NotFound := by rfl
example : (((insertBefore 2 1 (some 3)).run ghostHeap).1 0).kids = [1] := by decide +kernel
example : (ghostHeap 3).parent = some 2 ∧ 3 ∉ (ghostHeap 2).kids := by decide +kernel

end OdfModel.Props.C07
