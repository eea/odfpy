/-
  C18Spell — the paragraph handlers of the XHTML converter (model `OdfModel.Xhtml`, odf/odf2xhtml.py s_text_p / e_text_p)
  on style names in EVERY spelling: a name that only becomes a key of `special_styles` after '.' is replaced by '_'
  (Heading.20.1, Preformatted.20.Text, Heading_20.3 …) is opened and closed with the same special tag.

  * `para_open_close_same_tag`: whatever the attributes, the tag the start handler opens is the tag the end handler closes
    (the last token each of them writes carries `paraTag attrs`).
  * `paraTag_spelling`: the tag does not depend on whether the name is spelled with '.' or with '_'.
  * `dotted_special_spellings`: the dotted spellings of the special paragraph styles do get the special tag (so the theorems
    above are not about `p` only).
-/
import OdfModel.XhtmlLemmas
namespace OdfModel.Props.C18Spell
open OdfModel OdfModel.Xhtml OdfModel.Xml OdfModel.Generated.Xhtml

theorem replaceDot_nil : replaceDot [] = [] := rfl

theorem replaceDot_cons (x : Nat) (s : Str) :
    replaceDot (x :: s) = (if x = 46 then [95] else [x]) ++ replaceDot s := by
  simp [replaceDot, replace1]

/-- `s.replace(".", "_")` twice is once: no '.' is left after the first pass -/
theorem replaceDot_idem (s : Str) : replaceDot (replaceDot s) = replaceDot s := by
  induction s with
  | nil => rfl
  | cons x s ih => by_cases h : x = 46 <;> simp [replaceDot_cons, h, ih]

theorem replaceDot_isEmpty (s : Str) : (replaceDot s).isEmpty = s.isEmpty := by
  cases s with
  | nil => rfl
  | cons x s => rw [replaceDot_cons]; by_cases h : x = 46 <;> simp [h]

/-- **C18 (style-name spellings)**: the tag of a paragraph is the same for a style name and for its spelling with every
    '.' written as '_' -/
theorem paraTag_spelling (c : Str) (rest : Attrs) :
    paraTag ((kStyleName, c) :: rest) = paraTag ((kStyleName, replaceDot c) :: rest) := by
  simp [paraTag, List.lookup, replaceDot_idem, replaceDot_isEmpty]

/-- **C18 (style-name spellings)**: s_text_p and e_text_p of one element write an open and a close token of the SAME
    tag name, for every attribute list (every style name, special or not, dotted or not) -/
theorem para_open_close_same_tag (cfg : Cfg) (ctx : Ctx) (q : Str) (attrs : Attrs) (pe pc : Bool) (st st' : St)
    (hd : st'.depth ≠ 0) :
    (∃ s a b, runH cfg ctx .s_text_p q attrs pe pc st = .ok (s, pe, pc) ∧ s.out.getLast? = some (.otag (paraTag attrs) a b)) ∧
    (∃ s b, runH cfg ctx .e_text_p q attrs pe pc st' = .ok (s, pe, pc) ∧ s.out.getLast? = some (.ctag (paraTag attrs) b)) := by
  constructor
  · exact ⟨_, styleClassAttr cfg sPdash (attrs.lookup kStyleName), false, rfl, by simp⟩
  · refine ⟨purgedata (closePure (paraTag attrs) true (writedata st')), true, ?_, by simp⟩
    show ((closetag (paraTag attrs) true (writedata st')).map purgedata).map (fun s => (s, pe, pc)) = _
    rw [closetag_ok (by simpa using Nat.pos_of_ne_zero hd)]
    rfl

private def sty (s : String) : Attrs := [(kStyleName, s.toList.map Char.toNat)]

/-- the dotted spellings of the special paragraph styles get the special tag, other dotted names the tag `p` -/
theorem dotted_special_spellings :
    paraTag (sty "Heading.20.1") = "h1".toList.map Char.toNat ∧
    paraTag (sty "Heading_20.3") = "h3".toList.map Char.toNat ∧
    paraTag (sty "Heading.20_6") = "h6".toList.map Char.toNat ∧
    paraTag (sty "Preformatted.20.Text") = "pre".toList.map Char.toNat ∧
    paraTag (sty "Heading_20_2") = "h2".toList.map Char.toNat ∧
    paraTag (sty "My.Style") = nP ∧ paraTag (sty "Heading.1") = nP := by
  decide +kernel

end OdfModel.Props.C18Spell
