/-
  Props/C12Fault — C12 for histories in which output calls FAIL part-way (streams that raise, missing picture files).

  Full statement (C12 + C07 for the output calls): whatever output calls were made before — completed or failed at any point —
  the document is the original or its generator-normalised form, and every completed call returns exactly what it returns on the
  untouched document: a failed `save` is invisible to every later rendering ("a retry behaves like a first call").
-/
import OdfModel.RenderFault
import OdfModel.Props.C12
namespace OdfModel.Props.C12Fault
open OdfModel OdfModel.Render OdfModel.RenderFault OdfModel.Props.C12

/-- the position-based model and the early/late model of `Render.Call` (the one the correspondence check drives) agree -/
theorem stepAt_eq_stepC (c : Render.Cfg) (x : CallAt) (d : Doc) :
    stepAt c x d = Render.stepC c (classify c d x) d := by
  obtain ⟨op, f⟩ := x
  cases f with
  | none => cases op <;> rfl
  | some k =>
    cases op
    case save | write =>
      -- `failStep` and `classify` are opened by their equations and the position of `meta.xml` is made a variable
      -- before anything is compared: comparing the two `match`es as they stand evaluates `pkg` and the member names
      show failStep c k d = _
      rw [failStep, classify]
      generalize posOf _ _ = p
      cases p with
      | none => rfl
      | some m => by_cases h : m ≤ k <;> simp [h, stepC]
    all_goals rfl

theorem outAt_eq_outC (c : Render.Cfg) (x : CallAt) (d : Doc) :
    outAt c x d = Render.outC c (classify c d x) d := by
  obtain ⟨op, f⟩ := x
  cases f with
  | none => cases op <;> rfl
  | some k =>
    cases op
    case save | write =>
      -- no output, on whichever side of `meta.xml` the call raised
      show none = _
      rw [classify]
      generalize posOf _ _ = p
      cases p with
      | none => rfl
      | some m => by_cases h : m ≤ k <;> simp [h, outC]
    all_goals rfl

theorem stepAt_cases (c : Render.Cfg) (x : CallAt) (d : Doc) : stepAt c x d = d ∨ stepAt c x d = normGen c.tv d := by
  rw [stepAt_eq_stepC]; exact C12.stepC_cases c _ d

theorem near_runAt (c : Render.Cfg) (xs : List CallAt) {d e : Doc} (h : Near c.tv d e) : Near c.tv d (runAt c xs e) := by
  induction xs generalizing e with
  | nil => exact h
  | cons x r ih => exact ih (h.step (stepAt_cases c x))

/-- **C12 with failing calls (purity)**: after ANY history of output calls, each of which may complete or raise while any
    member is being written, the document is the one before the history or its generator-normalised form. -/
theorem render_pure_with_faults (c : Render.Cfg) (xs : List CallAt) (d : Doc) :
    runAt c xs d = d ∨ runAt c xs d = normGen c.tv d :=
  near_runAt c xs (Or.inl rfl)

/-- nothing outside `office:meta` changes, however the calls end -/
theorem nonmeta_pure_with_faults (c : Render.Cfg) (xs : List CallAt) (d : Doc) :
    (runAt c xs d).part = d.part ∧ (runAt c xs d).pictures = d.pictures ∧ (runAt c xs d).objects = d.objects ∧
    (runAt c xs d).extras = d.extras ∧ (runAt c xs d).thumbnail = d.thumbnail ∧ (runAt c xs d).mimetype = d.mimetype := by
  rcases render_pure_with_faults c xs d with h | h <;> rw [h] <;> simp [normGen]

theorem outAt_near (c : Render.Cfg) (x : CallAt) {d e : Doc} (h : Near c.tv d e) : outAt c x e = outAt c x d := by
  simp only [outAt, out_near c _ h]

theorem outsAt_eq_map (c : Render.Cfg) (xs : List CallAt) {d e : Doc} (h : Near c.tv d e) :
    outsAt c xs e = xs.map (fun x => outAt c x d) := by
  induction xs generalizing e with
  | nil => rfl
  | cons x r ih => rw [outsAt, outAt_near c x h, ih (h.step (stepAt_cases c x)), List.map_cons]

/-- **C12 with failing calls (history independence)**: the i-th call of any history, if it completes, returns what the same
    call returns on the untouched document — whatever completed or failed before it. -/
theorem output_independent_of_failures (c : Render.Cfg) (xs : List CallAt) (d : Doc) (i : Nat) (x : CallAt)
    (hx : xs[i]? = some x) (hok : x.fails = false) :
    (outsAt c xs d)[i]? = some (some (out c x.op d)) := by
  simp [outsAt_eq_map c xs (Or.inl rfl), hx, outAt, hok]

/-- the outputs of the completed calls are the outputs of the history with the failed calls taken out: a failed call is
    invisible to every later rendering -/
theorem failed_calls_invisible (c : Render.Cfg) (xs : List CallAt) (d : Doc) :
    (outsAt c xs d).filterMap id = outs c (completed xs) d := by
  rw [outsAt_eq_map c xs (Or.inl rfl), outs_eq_map c _ (Or.inl rfl)]
  induction xs with
  | nil => rfl
  | cons y r ih =>
    rw [List.map_cons, List.filterMap_cons, completed, outAt]
    cases y.fails <;> simp [ih]

/-- **a retry behaves like a first call**: `save` after a `save` that failed at any member writes the package a first `save`
    writes -/
theorem retry_same (c : Render.Cfg) (k : Nat) (d : Doc) :
    outAt c ⟨.save, none⟩ (stepAt c ⟨.save, some k⟩ d) = some (out c .save d) :=
  outAt_near c ⟨.save, none⟩ (stepAt_cases c ⟨.save, some k⟩ d)

theorem member_names : (str "mimetype" == str "meta.xml") = false ∧ (str "styles.xml" == str "meta.xml") = false ∧
    (str "content.xml" == str "meta.xml") = false ∧ (str "settings.xml" == str "meta.xml") = false := by decide +kernel

/-- where `meta.xml` sits: after `mimetype`, `styles.xml`, `content.xml` (and `settings.xml` when there are settings) -/
theorem meta_position (F : Styles.Cfg) (d : Doc) :
    posOf (str "meta.xml") (pkg F d) = some (if hasKids d.part.settings then 4 else 3) := by
  obtain ⟨rest, h⟩ := pkg_shape F d
  obtain ⟨n1, n2, n3, n4⟩ := member_names
  rw [h]
  cases hk : hasKids d.part.settings <;> simp [xmlMembers, hk, posOf, n1, n2, n3, n4]

/-- a failure in front of `meta.xml` leaves the document exactly as it was (C07 for `save`); 3 is the smaller of the
    two positions `meta_position` gives -/
theorem early_failure_untouched (c : Render.Cfg) (k : Nat) (d : Doc) (hk : k < 3) : failStep c k d = d := by
  rw [failStep, meta_position]
  exact if_neg (by split <;> omega)

/-! non-vacuity: a concrete history with two failures, one in front of `meta.xml` and one behind it -/
def sampleCfg : Render.Cfg := ⟨⟨[], [], fun _ => false⟩, str "ODFPY/x"⟩

/-- a failure while `content.xml` (member 2) is written leaves the foreign generator in place; a failure behind `meta.xml`
    (member 4, the manifest, is the last member here) has normalised it -/
example : (runAt sampleCfg [⟨.save, some 2⟩] C12.sample).metaEl = C12.sample.metaEl := by rfl
example : (runAt sampleCfg [⟨.save, some 2⟩, ⟨.write, some 4⟩] C12.sample).metaEl =
    .elem 20 [] [.elem 21 [] [.text (str "T")], .elem eGenerator [] [.text (str "ODFPY/x")]] := by rfl
example : (outsAt sampleCfg [⟨.save, some 1⟩, ⟨.metaxml, none⟩, ⟨.write, some 5⟩, ⟨.save, none⟩] C12.sample).length = 4 := rfl

end OdfModel.Props.C12Fault
