/-
  Property C05 — two input classes of harness/c05.py: long root start tags, nearly equal font names.

  * `__fixXmlPart` reads the WHOLE start tag of the document element, however long: padding of any length in front of
    the declarations (white space, unquoted material: no `>`, no quotation mark — `Plain`) changes neither what
    `scanTag` returns behind it nor what `declares` finds — a part that declares the nine prefixes at the END of a
    start tag of 8 KiB, 64 KiB, … is not touched (`fix_long_root_identity`).
  * the font merge of content.xml / styles.xml uses style:name as an EXACT key: a style:font-face whose name is not,
    character for character, among the names declared before is kept with its subtree (`fontDrop_keeps`).
-/
import OdfModel.Props.C05
namespace OdfModel.Props.C05Long
open OdfModel OdfModel.Xml OdfModel.LoadSax OdfModel.Props.C04 OdfModel.Props.C05

/-- `re.search` looks at every position: a declaration found in `tag` is found behind any text put in front of it -/
theorem declares_pad (p : Str) (tag : Str) (h : declares p tag = true) : (pad : Str) → declares p (pad ++ tag) = true
  | [] => h
  | c :: pad => by simp [declares, declares_pad p tag h pad]

/-- characters that are neither `>` nor a quotation mark -/
def Plain (pad : Str) : Prop := ∀ c ∈ pad, c ≠ 62 ∧ c ≠ 34 ∧ c ≠ 39

/-- the scan of the start tag walks over plain padding of ANY length (no window, no limit) -/
theorem scanTag_pad (r : Str) (f : Nat) : (pad : Str) → Plain pad → scanTag (pad.length + f) (pad ++ r) = pad ++ scanTag f r
  | [], _ => by simp
  | c :: pad, h => by
    have hc := h c (by simp)
    have ih := scanTag_pad r f pad (fun d hd => h d (by simp [hd]))
    have e : (c :: pad).length + f = (pad.length + f) + 1 := by simp; omega
    rw [e]
    simp [scanTag, hc.1, hc.2.1, hc.2.2, ih]

/-- **C05 (long root start tag)**: behind the name of the document element come `pad` — plain text of any length (no
    `>`, no quotation mark: white space, unquoted material; padding that holds quoted values is not covered here) — and
    then `rest`, whose start-tag part declares the nine prefixes: the part is not touched. -/
theorem fix_long_root_identity (x pad rest : Str) (e : Nat) (he : findRootEnd x = some e) (hx : x.drop e = pad ++ rest)
    (hp : Plain pad) (hd : ∀ p ∈ requested, declares p (scanTag (rest.length + 1) rest) = true) : fixXmlPart x = x := by
  apply fix_identity
  intro e' he' p hpm
  rw [he] at he'
  cases he'
  unfold rootTagText
  rw [hx]
  have hl : (pad ++ rest).length + 1 = pad.length + (rest.length + 1) := by simp; omega
  rw [hl, scanTag_pad rest (rest.length + 1) pad hp]
  exact declares_pad p _ (hd p hpm) pad

/-- membership in a forest -/
def memF (n : Node) : Forest → Prop
  | .nil => False
  | .cons m t => m = n ∨ memF n t

/-- **C05 (font declarations, exact key)**: a node of the office:font-face-decls content that is not a style:font-face
    whose style:name is — character for character — among the names declared by the parts read before, is kept with its
    subtree.  Names that differ only by case, by Unicode normalisation or by blanks are different lists of code points. -/
theorem fontDrop_keeps (decl : List (Option Str)) (q : QName) (a : List (QName × Str)) (k : Forest)
    (hn : decl.contains (lookupA aStyleName a) = false) : (f : Forest) → memF (.elem q a k) f → memF (.elem q a k) (fontDrop decl f)
  | .cons (.text _) t, .inr h | .cons (.cdata _) t, .inr h => .inr (fontDrop_keeps decl q a k hn t h)
  | .cons (.elem q' a' k') t, h => by
    unfold fontDrop
    rcases h with h | h
    · cases h
      have hm : ¬ lookupA aStyleName a ∈ decl := by simpa using hn
      simp [hm, memF]
    · split
      · exact fontDrop_keeps decl q a k hn t h
      · exact .inr (fontDrop_keeps decl q a k hn t h)

/-- the input class of harness/c05.py: the first part declared "Ab", the second declares "ab", "AB", " Ab" and "Ab" — only
    the last (the same name, character for character) is merged -/
example : fontDrop [some [65, 98]] (.cons (.elem qFontFaceEl [(aStyleName, [97, 98])] .nil)
      (.cons (.elem qFontFaceEl [(aStyleName, [65, 66])] .nil) (.cons (.elem qFontFaceEl [(aStyleName, [32, 65, 98])] .nil)
      (.cons (.elem qFontFaceEl [(aStyleName, [65, 98])] .nil) .nil)))) =
    .cons (.elem qFontFaceEl [(aStyleName, [97, 98])] .nil)
      (.cons (.elem qFontFaceEl [(aStyleName, [65, 66])] .nil) (.cons (.elem qFontFaceEl [(aStyleName, [32, 65, 98])] .nil) .nil)) := by
  simp [fontDrop, lookupA]

end OdfModel.Props.C05Long
