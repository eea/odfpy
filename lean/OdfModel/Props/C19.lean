/-
  Property C19 — updating user fields changes those fields and nothing else.
  About `OdfModel.UserField` (model of odf/userfield.py) and the regenerated tables `Generated.ValueTypes`; tied to the
  code by harness/c19.py (same documents and update dictionaries through `UserFields.update` /
  `list_fields_and_values` and through `drv_userfield`; its oracle also compares the output of `update` with a plain
  load+save, member by member).
  A document is here its list of declarations and opaque other items; the frame condition is that every other item is
  carried over unchanged and in place (`updateDoc_frame`).  That the package around them is written as by an ordinary
  load and save is Props/C19Pkg.lean.
-/
import OdfModel.UserField
namespace OdfModel.Props.C19
open OdfModel OdfModel.UserField

/-- two lists related element by element (core has no `All2`) -/
inductive All2 {α β : Type} (R : α → β → Prop) : List α → List β → Prop where
  | nil : All2 R [] []
  | cons {a b as bs} : R a b → All2 R as bs → All2 R (a :: as) (b :: bs)

theorem All2.length_eq {α β : Type} {R : α → β → Prop} {l : List α} {l' : List β} (h : All2 R l l') :
    l.length = l'.length := by
  induction h with
  | nil => rfl
  | cons _ _ ih => simp [ih]

theorem All2.imp {α β : Type} {R S : α → β → Prop} {l : List α} {l' : List β} (h : All2 R l l')
    (hi : ∀ a b, R a b → S a b) : All2 S l l' := by
  induction h with
  | nil => exact .nil
  | cons hab _ ih => exact .cons (hi _ _ hab) ih

theorem All2.map_eq {α β γ : Type} {R : α → β → Prop} {f : α → γ} {g : β → γ} {l : List α} {l' : List β}
    (h : All2 R l l') (hi : ∀ a b, R a b → g b = f a) : l'.map g = l.map f := by
  induction h with
  | nil => rfl
  | cons hab _ ih => simp [hi _ _ hab, ih]

theorem All2.map {α γ δ : Type} {R : γ → δ → Prop} {f : α → γ} {g : α → δ} :
    ∀ {l : List α}, (∀ e ∈ l, R (f e) (g e)) → All2 R (l.map f) (l.map g)
  | [], _ => .nil
  | a :: _, h => .cons (h a List.mem_cons_self) (All2.map fun e he => h e (List.mem_cons_of_mem _ he))

theorem All2.get {α γ : Type} {R : α → γ → Prop} {l : List α} {l' : List γ} (h : All2 R l l') :
    ∀ (j : Nat) (a : α) (b : γ), l[j]? = some a → l'[j]? = some b → R a b := by
  induction h with
  | nil => nofun
  | cons hab _ ih =>
    rintro (_ | j) a b ha hb
    · cases ha; cases hb; exact hab
    · exact ih j a b ha hb

theorem All2.mem_left {α γ : Type} {R : α → γ → Prop} {l : List α} {l' : List γ} (h : All2 R l l') :
    ∀ a ∈ l, ∃ b ∈ l', R a b := by
  induction h with
  | nil => nofun
  | cons hab _ ih =>
    intro a ha
    rcases List.mem_cons.mp ha with rfl | ha
    · exact ⟨_, List.mem_cons_self, hab⟩
    · exact (ih a ha).imp fun b hb => ⟨List.mem_cons_of_mem _ hb.1, hb.2⟩

theorem All2.flip {α γ : Type} {R : α → γ → Prop} {l : List α} {l' : List γ} (h : All2 R l l') :
    All2 (fun b a => R a b) l' l := by
  induction h with
  | nil => exact .nil
  | cons hab _ ih => exact .cons hab ih

theorem All2.mem_right {α γ : Type} {R : α → γ → Prop} {l : List α} {l' : List γ} (h : All2 R l l') :
    ∀ b ∈ l', ∃ a ∈ l, R a b :=
  h.flip.mem_left

/-! ### facts about the regenerated tables -/

/-- the value attribute of each value type according to ODF 1.2 part 1 §19.385/19.387-389, in the normal form
    of the generated table (types whose attribute is the default `office:value` are not listed; sorted by type
    name): boolean → office:boolean-value (5), date → office:date-value (3), string → office:string-value (6),
    time → office:time-value (4); float, percentage, currency and anything else → office:value (2).
    Hand-written from the specification. -/
def specTable : List (Str × AttrKey) :=
  [([98, 111, 111, 108, 101, 97, 110], 5), ([100, 97, 116, 101], 3), ([115, 116, 114, 105, 110, 103], 6), ([116, 105, 109, 101], 4)]
def specDefault : AttrKey := 2

def specAttrFor (vt : Option Str) : AttrKey := attrIn specTable specDefault specDefault vt

/-- **C19 (appropriate attribute)**: the table `update` was measured to use IS the specification's table -/
theorem upd_table_is_spec :
    Generated.ValueTypes.updTable = specTable ∧ Generated.ValueTypes.updDefault = specDefault ∧
    Generated.ValueTypes.updNone = specDefault := by decide

/-- **C19 (appropriate attribute)**: the table `list_fields_and_values` reads through IS the specification's table -/
theorem list_table_is_spec :
    Generated.ValueTypes.listTable = specTable ∧ Generated.ValueTypes.listDefault = specDefault ∧
    Generated.ValueTypes.listNone = specDefault := by decide

theorem updAttrFor_spec (vt : Option Str) : updAttrFor vt = specAttrFor vt := by
  unfold updAttrFor specAttrFor
  rw [upd_table_is_spec.1, upd_table_is_spec.2.1, upd_table_is_spec.2.2]

theorem listAttrFor_spec (vt : Option Str) : listAttrFor vt = specAttrFor vt := by
  unfold listAttrFor specAttrFor
  rw [list_table_is_spec.1, list_table_is_spec.2.1, list_table_is_spec.2.2]

/-- update writes where listing reads, for EVERY value type string (known, unknown, missing) -/
theorem attr_agree (vt : Option Str) : updAttrFor vt = listAttrFor vt := by
  rw [updAttrFor_spec, listAttrFor_spec]

theorem attrIn_ind {P : AttrKey → Prop} (t : List (Str × AttrKey)) (d n : AttrKey) (vt : Option Str)
    (hd : P d) (hn : P n) (ht : ∀ r ∈ t, P r.2) : P (attrIn t d n vt) := by
  unfold attrIn
  split
  · exact hn
  · split
    · next r h => exact ht r (List.mem_of_find?_eq_some h)
    · exact hd

/-- the attribute update writes is one of the five value attributes: never text:name, never office:value-type,
    never any other attribute of the declaration -/
theorem updAttr_range (vt : Option Str) : 2 ≤ updAttrFor vt ∧ updAttrFor vt ≤ 6 := by
  rw [updAttrFor_spec]
  exact attrIn_ind (P := fun k => 2 ≤ k ∧ k ≤ 6) specTable specDefault specDefault vt (by decide) (by decide) (by decide)

/-- every value attribute but office:boolean-value goes through an identity converter -/
theorem conv_identity_unless_boolean (k : AttrKey) (h1 : 2 ≤ k ∧ k ≤ 6) (h : k ≠ 5) : convClass k = 0 := by
  have : ∀ k : Fin 7, 2 ≤ k.val → k.val ≠ 5 → convClass k.val = 0 := by decide
  exact this ⟨k, Nat.lt_succ_of_le h1.2⟩ h1.1 h

theorem conv_boolean : convClass 5 = 1 := by decide

/-! ### association lists -/

theorem lookup_setAttr_same (k : AttrKey) (v : Str) (l : List (AttrKey × Str)) :
    lookup k (setAttr k v l) = some v := by
  fun_induction setAttr k v l <;> simp_all [lookup]

theorem lookup_setAttr_other (k k' : AttrKey) (v : Str) (l : List (AttrKey × Str)) (h : k' ≠ k) :
    lookup k' (setAttr k v l) = lookup k' l := by
  fun_induction setAttr k v l <;> simp_all [lookup, Ne.symm h]

theorem setAttr_idem (k : AttrKey) (v : Str) (l : List (AttrKey × Str)) :
    setAttr k v (setAttr k v l) = setAttr k v l := by
  fun_induction setAttr k v l <;> simp_all [setAttr]

/-- attribute order and count: an existing attribute is overwritten in place, a new one is appended -/
theorem setAttr_keys (k : AttrKey) (v : Str) (l : List (AttrKey × Str)) :
    (setAttr k v l).map Prod.fst = if k ∈ l.map Prod.fst then l.map Prod.fst else l.map Prod.fst ++ [k] := by
  fun_induction setAttr k v l with
  | case1 => rfl
  | case2 k' v' r hk => cases beq_iff_eq.mp hk; exact (if_pos List.mem_cons_self).symm
  | case3 k' v' r hk ih =>
    simp only [List.map_cons, List.mem_cons, ih, show k ≠ k' from fun e => hk (beq_iff_eq.mpr e.symm), false_or]
    split <;> rfl

/-! ### one declaration -/

/-- the raw new value the dictionary holds for this declaration, if any -/
def named (data : Data) (f : Field) : Option Str :=
  match f.name with
  | none => none
  | some n => lookup n data

theorem updField_eq (data : Data) (f : Field) : updField data f = match named data f with
    | none => .ok f
    | some v => match convert (updAttrFor f.vtype) v with
      | .error e => .error e
      | .ok v' => .ok ⟨setAttr (updAttrFor f.vtype) v' f.attrs⟩ := by
  unfold updField named
  cases f.name <;> rfl

theorem updField_unnamed (data : Data) (f : Field) (h : named data f = none) : updField data f = .ok f := by
  rw [updField_eq, h]

theorem updField_ok {data : Data} {f f' : Field} (hu : updField data f = .ok f') :
    named data f = none ∧ f' = f ∨ ∃ v v', named data f = some v ∧ convert (updAttrFor f.vtype) v = .ok v' ∧
      f' = ⟨setAttr (updAttrFor f.vtype) v' f.attrs⟩ := by
  rw [updField_eq] at hu
  split at hu
  · next hn => exact Or.inl ⟨hn, (Except.ok.inj hu).symm⟩
  · next v hn =>
    split at hu
    · cases hu
    · next v' hc => exact Or.inr ⟨v, v', hn, hc, (Except.ok.inj hu).symm⟩

/-- **C19 (frame, one declaration)**: after a successful update of a declaration, every attribute other than the
    value attribute of its type is what it was — in particular its name, its value type, and the value attributes of
    OTHER types it may carry (a stale office:value next to office:date-value, office:currency, text:formula, foreign
    attributes); attribute order is kept (a new value attribute is appended); an unnamed declaration is untouched. -/
theorem updField_frame (data : Data) (f f' : Field) (hu : updField data f = .ok f') :
    (∀ k, k ≠ updAttrFor f.vtype → lookup k f'.attrs = lookup k f.attrs) ∧
    (named data f = none → f' = f) ∧
    (f'.attrs.map Prod.fst = f.attrs.map Prod.fst ∨
      f'.attrs.map Prod.fst = f.attrs.map Prod.fst ++ [updAttrFor f.vtype]) := by
  rcases updField_ok hu with ⟨_, rfl⟩ | ⟨v, v', hn, _, rfl⟩
  · exact ⟨fun _ _ => rfl, fun _ => rfl, Or.inl rfl⟩
  · refine ⟨fun k hk => lookup_setAttr_other _ k v' f.attrs hk, fun h => (nomatch hn.symm.trans h), ?_⟩
    rw [setAttr_keys]
    split
    · exact .inl rfl
    · exact .inr rfl

theorem updField_name_type (data : Data) (f f' : Field) (hu : updField data f = .ok f') :
    f'.name = f.name ∧ f'.vtype = f.vtype := by
  have h := (updField_frame data f f' hu).1
  have h2 := (updAttr_range f.vtype).1
  exact ⟨h nameKey fun e => absurd (e ▸ h2 : 2 ≤ nameKey) (by decide), h typeKey fun e => absurd (e ▸ h2 : 2 ≤ typeKey) (by decide)⟩

/-- what `list_fields_and_values` must return for a declaration after `update data` -/
def expectedView (data : Data) (f : Field) : Option Str × Option Str × Option Str :=
  match named data f with
  | none => view f
  | some v => (f.name, f.vtype, (convert (updAttrFor f.vtype) v).toOption)

theorem updField_view (data : Data) (f f' : Field) (hu : updField data f = .ok f') :
    view f' = expectedView data f := by
  obtain ⟨hnm, hty⟩ := updField_name_type data f f' hu
  unfold expectedView
  rcases updField_ok hu with ⟨hn, rfl⟩ | ⟨v, v', hn, hc, rfl⟩
  · rw [hn]
  · simp only [hn, view, hnm, hty, hc, Except.toOption, ← attr_agree, lookup_setAttr_same]

/-! ### the whole list of declarations -/

theorem update_all2 (data : Data) (fs fs' : List Field) (h : update data fs = .ok fs') :
    All2 (fun f f' => updField data f = .ok f') fs fs' := by
  fun_induction update data fs generalizing fs' with
  | case1 => cases h; exact .nil
  | case4 f r f' hf r' hr ih => cases h; exact .cons hf (ih r' hr)
  | _ => cases h  -- a step fails: no output

/-- **C19 (`update_sets`)**: listing the fields of the output returns, in the same order and number, for every
    declaration whose name is a key of the dictionary its name, its (unchanged) type and the new value as stored by
    the converter of its type's value attribute — and for every other declaration exactly what listing the source
    returns. -/
theorem update_sets (data : Data) (fs fs' : List Field) (h : update data fs = .ok fs') :
    listFields fs' = fs.map (expectedView data) :=
  (update_all2 data fs fs' h).map_eq (updField_view data)

theorem convert_identity (k : AttrKey) (v : Str) (h : convClass k = 0) : convert k v = .ok v := by
  simp [convert, h]

theorem cnvBoolean_true : cnvBoolean [116, 114, 117, 101] = .ok [116, 114, 117, 101] := rfl
theorem cnvBoolean_false : cnvBoolean [102, 97, 108, 115, 101] = .ok [102, 97, 108, 115, 101] := rfl

/-- **C19 (`update_sets`, verbatim form)**: for string, float, percentage, currency, date, time and unknown-type
    declarations the listed value is the dictionary's value code point for code point (markup characters,
    whitespace, non-ASCII included); for boolean declarations so are the canonical literals `true` / `false`. -/
theorem expectedView_verbatim (data : Data) (f : Field) (v : Str) (hn : named data f = some v)
    (hv : updAttrFor f.vtype ≠ 5 ∨ v = [116, 114, 117, 101] ∨ v = [102, 97, 108, 115, 101]) :
    expectedView data f = (f.name, f.vtype, some v) := by
  have hc : convert (updAttrFor f.vtype) v = .ok v := by
    by_cases h5 : updAttrFor f.vtype = 5
    · rw [h5, convert, conv_boolean]
      rcases hv with hv | rfl | rfl
      · exact absurd h5 hv
      · exact cnvBoolean_true
      · exact cnvBoolean_false
    · exact convert_identity _ _ (conv_identity_unless_boolean _ (updAttr_range _) h5)
  simp only [expectedView, hn, hc, Except.toOption]

/-- **C19 (`update_frame`)**: field count and order are unchanged, and declaration by declaration everything but
    the one value attribute is unchanged (see `updField_frame`). -/
theorem update_frame (data : Data) (fs fs' : List Field) (h : update data fs = .ok fs') :
    fs'.length = fs.length ∧
    All2 (fun f f' =>
      (∀ k, k ≠ updAttrFor f.vtype → lookup k f'.attrs = lookup k f.attrs) ∧
      (named data f = none → f' = f) ∧
      (f'.attrs.map Prod.fst = f.attrs.map Prod.fst ∨
        f'.attrs.map Prod.fst = f.attrs.map Prod.fst ++ [updAttrFor f.vtype])) fs fs' := by
  have h2 := update_all2 data fs fs' h
  exact ⟨h2.length_eq.symm, h2.imp (updField_frame data)⟩

/-- relation between an item of the source and the item at the same place of the output -/
def ItemRel (data : Data) : Item → Item → Prop
  | .other x, .other y => x = y
  | .field f, .field f' => updField data f = .ok f'
  | _, _ => False

/-- **C19 (`update_frame`, document level)**: the output has the same items in the same order; everything that is
    not a declaration (other content, styles, pictures, package members: opaque payloads) is identical; each
    declaration is related to its source by one step of the update loop. -/
theorem updateDoc_frame (data : Data) (d d' : Doc) (h : updateDoc data d = .ok d') :
    All2 (ItemRel data) d d' := by
  fun_induction updateDoc data d generalizing d' with
  | case1 => cases h; exact .nil
  | case3 x r r' hr ih => cases h; exact .cons rfl (ih r' hr)
  | case6 f r f' hf r' hr ih => cases h; exact .cons hf (ih r' hr)
  | _ => cases h

theorem fieldsOf_updateDoc (data : Data) (d d' : Doc) (h : updateDoc data d = .ok d') :
    update data (fieldsOf d) = .ok (fieldsOf d') := by
  have hrel := updateDoc_frame data d d' h
  clear h
  induction hrel with
  | nil => rfl
  | @cons a b _ _ hab _ ih =>
    cases a <;> cases b <;> simp only [ItemRel] at hab
    · simp only [fieldsOf, update, hab, ih]
    · exact ih

/-- **C19 (whole tool)**: after `update(data)` listing the destination gives `expectedView` of the source's fields -/
theorem updateOp_sets (data : Data) (s s' : State) (h : updateOp data s = .ok s') :
    ∃ d', s'.dest = some d' ∧ listFields (fieldsOf d') = (fieldsOf s.src).map (expectedView data) ∧
      All2 (ItemRel data) s.src d' := by
  unfold updateOp at h
  split at h
  · cases h
  · next d' hd =>
    cases h
    exact ⟨d', rfl, update_sets data _ _ (fieldsOf_updateDoc data _ _ hd), updateDoc_frame data _ _ hd⟩

/-! ### names that do not occur, idempotence, read-only listing -/

theorem updField_congr (data data' : Data) (f : Field) (h : named data f = named data' f) :
    updField data f = updField data' f := by
  rw [updField_eq, updField_eq, h]

theorem update_congr (data data' : Data) (fs : List Field) (h : ∀ f ∈ fs, named data f = named data' f) :
    update data fs = update data' fs := by
  induction fs with
  | nil => rfl
  | cons f r ih =>
    simp only [update]
    rw [updField_congr data data' f (h f (by simp)), ih (fun g hg => h g (List.mem_cons_of_mem _ hg))]

/-- **C19 (`unknown_names_ignored`)**: a dictionary none of whose keys names a declaration changes nothing -/
theorem unknown_names_ignored (data : Data) (fs : List Field) (h : ∀ f ∈ fs, named data f = none) :
    update data fs = .ok fs := by
  induction fs with
  | nil => rfl
  | cons f r ih =>
    simp only [update]
    rw [updField_unnamed data f (h f (by simp)), ih (fun g hg => h g (List.mem_cons_of_mem _ hg))]

/-- adding entries for names that are not declared does not change the result -/
theorem unknown_names_irrelevant (data extra : Data) (fs : List Field)
    (h : ∀ f ∈ fs, ∀ n, f.name = some n → lookup n (data ++ extra) = lookup n data) :
    update (data ++ extra) fs = update data fs := by
  apply update_congr
  intro f hf
  unfold named
  cases hn : f.name with
  | none => rfl
  | some n => exact h f hf n hn

theorem cnvBoolean_idem (v v' : Str) (h : cnvBoolean v = .ok v') : cnvBoolean v' = .ok v' := by
  unfold cnvBoolean at h
  simp only at h
  split at h
  · cases h; exact cnvBoolean_false
  · split at h
    · cases h; exact cnvBoolean_true
    · cases h

theorem convert_idem (k : AttrKey) (v v' : Str) (h : convert k v = .ok v') : convert k v' = .ok v' := by
  unfold convert at h ⊢
  split at h
  · next h0 => rw [if_pos h0]
  · next h0 =>
    split at h
    · next h1 => rw [if_neg h0, if_pos h1]; exact cnvBoolean_idem v v' h
    · cases h

theorem updField_idem (data : Data) (f f' : Field) (hu : updField data f = .ok f') :
    updField data f' = .ok f' := by
  obtain ⟨hnm, hty⟩ := updField_name_type data f f' hu
  rcases updField_ok hu with ⟨hn, rfl⟩ | ⟨v, v', hn, hc, rfl⟩
  · exact hu
  · -- the second run converts the same raw value to the same v' and overwrites the attribute with itself
    have hn' : named data ⟨setAttr (updAttrFor f.vtype) v' f.attrs⟩ = some v := by unfold named at hn ⊢; rw [hnm]; exact hn
    simp only [updField_eq, hn', hty, hc, setAttr_idem]

/-- **C19 (`update_idempotent`)**: updating the output again with the same dictionary gives the same output -/
theorem update_idempotent (data : Data) (fs fs' : List Field) (h : update data fs = .ok fs') :
    update data fs' = .ok fs' := by
  have h2 := update_all2 data fs fs' h
  clear h
  induction h2 with
  | nil => rfl
  | cons hf _ ih => simp only [update, updField_idem data _ _ hf, ih]

/-- **C19 (`list_readonly`)**: listing returns the views and leaves source and destination as they were
    (the modelled method has no `savedoc()`; tied to the code by hashing the source before and after) -/
theorem list_readonly (s : State) : (listOp s).2 = s ∧ (listOp s).1 = listFields (fieldsOf s.src) := ⟨rfl, rfl⟩

/-- updating never modifies the source either -/
theorem update_keeps_source (data : Data) (s s' : State) (h : updateOp data s = .ok s') : s'.src = s.src := by
  unfold updateOp at h
  split at h
  · cases h
  · cases h; rfl

/-! ### histories on one object -/

/-- **C19 (a call depends only on the source and its own arguments)**: whatever state the object is in (whatever
    was written before, whatever calls were made before), the result of a call is determined by the source
    document as it is now -/
theorem step_depends_on_source (s s' : State) (op : Op) (h : s.src = s'.src) : (step s op).2 = (step s' op).2 := by
  cases op with
  | list => simp [step, h]
  | update data inPlace =>
    simp only [step, h]
    cases updateDoc data s'.src <;> rfl

theorem step_keeps_source (s : State) (op : Op) (h : op.keepsSource = true) : (step s op).1.src = s.src := by
  cases op with
  | list => rfl
  | update data inPlace =>
    simp only [Op.keepsSource, Bool.not_eq_true'] at h
    subst h
    simp only [step]
    cases updateDoc data s.src <;> rfl

theorem run_keeps_source (s : State) (ops : List Op) (h : ∀ op ∈ ops, op.keepsSource = true) :
    (run s ops).src = s.src := by
  induction ops generalizing s with
  | nil => rfl
  | cons op r ih =>
    simp only [run]
    rw [ih _ (fun o ho => h o (List.mem_cons_of_mem _ ho)), step_keeps_source s op (h op (by simp))]

/-- **C19 (`history_independent`)**: after any history of listings and updates that write elsewhere, the next call
    gives exactly what it gives on a fresh object: the second update carries nothing of the first, reads keep
    returning what the source says -/
theorem history_independent (s : State) (ops : List Op) (h : ∀ op ∈ ops, op.keepsSource = true) (op : Op) :
    (step (run s ops) op).2 = (step ⟨s.src, none⟩ op).2 :=
  step_depends_on_source _ _ op (run_keeps_source s ops h)

/-- an update in place makes its output the source of the following calls -/
theorem in_place_becomes_source (s : State) (data : Data) (d : Doc) (h : updateDoc data s.src = .ok d) :
    (step s (.update data true)).1.src = d := by
  simp [step, h]

/-! ### the hypotheses are satisfiable -/

/-- a date declaration (carrying a stale office:value) and a string declaration, next to other content;
    updating the date and an undeclared name -/
example :
    let date : Field := ⟨[(0, [100]), (1, [100, 97, 116, 101]), (3, [49]), (2, [57])]⟩
    let str : Field := ⟨[(0, [115]), (1, [115, 116, 114, 105, 110, 103]), (6, [120])]⟩
    updateDoc [([100], [50]), ([122], [51])] [.other 1, .field date, .other 2, .field str] =
      .ok [.other 1, .field ⟨[(0, [100]), (1, [100, 97, 116, 101]), (3, [50]), (2, [57])]⟩, .other 2, .field str] := by
  rfl

end OdfModel.Props.C19
