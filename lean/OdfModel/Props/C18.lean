/-
  C18 — the XHTML and MoinMoin converters are total, complete and escape everything.

  Models: `OdfModel.Xhtml` (odf/odf2xhtml.py), `OdfModel.Moin` (odf/odf2moinmoin.py); the handlers one by one in
  `OdfModel.XhtmlLemmas`, the inductions over the tree in `OdfModel.XhtmlText`, the escapers in `OdfModel.XhtmlEscape`.
  Everything here is PARTIAL BY CONSTRUCTION: only the converters' supported vocabulary is modelled (`Supported`,
  `Block`/`Inline`), and the style sheet text is a parameter of the token model (`Cfg.cssText`; its writer is covered by
  `css_section_partial`).  No finding is excluded from the statements: the models follow /repo with a71a4f0 … 22e9516.
-/
import OdfModel.XhtmlLemmas
import OdfModel.XhtmlText
import OdfModel.XhtmlEscape
import OdfModel.Moin
import OdfModel.MoinLemmas
namespace OdfModel.Props.C18
open OdfModel OdfModel.Xhtml OdfModel.Generated.Xhtml

/-! ## The vocabulary: element names and what the regenerated dispatch table says about them -/

def qDocument : Str := [111, 102, 102, 105, 99, 101, 58, 100, 111, 99, 117, 109, 101, 110, 116]  -- office:document
def qBody : Str := [111, 102, 102, 105, 99, 101, 58, 98, 111, 100, 121]  -- office:body
def qText : Str := [111, 102, 102, 105, 99, 101, 58, 116, 101, 120, 116]  -- office:text
def qSpreadsheet : Str := [111, 102, 102, 105, 99, 101, 58, 115, 112, 114, 101, 97, 100, 115, 104, 101, 101, 116]  -- office:spreadsheet
def qPresentation : Str := [111, 102, 102, 105, 99, 101, 58, 112, 114, 101, 115, 101, 110, 116, 97, 116, 105, 111, 110]  -- office:presentation
def qMeta : Str := [111, 102, 102, 105, 99, 101, 58, 109, 101, 116, 97]  -- office:meta
def qStyles : Str := [111, 102, 102, 105, 99, 101, 58, 115, 116, 121, 108, 101, 115]  -- office:styles
def qAutoStyles : Str := [111, 102, 102, 105, 99, 101, 58, 97, 117, 116, 111, 109, 97, 116, 105, 99, 45, 115, 116, 121, 108, 101, 115]  -- office:automatic-styles
def qMasterStyles : Str := [111, 102, 102, 105, 99, 101, 58, 109, 97, 115, 116, 101, 114, 45, 115, 116, 121, 108, 101, 115]  -- office:master-styles
def qSettings : Str := [111, 102, 102, 105, 99, 101, 58, 115, 101, 116, 116, 105, 110, 103, 115]  -- office:settings
def qFontDecls : Str := [111, 102, 102, 105, 99, 101, 58, 102, 111, 110, 116, 45, 102, 97, 99, 101, 45, 100, 101, 99, 108, 115]  -- office:font-face-decls
def qScripts : Str := [111, 102, 102, 105, 99, 101, 58, 115, 99, 114, 105, 112, 116, 115]  -- office:scripts
def qTitle : Str := [100, 99, 58, 116, 105, 116, 108, 101]  -- dc:title
def qCreator : Str := [100, 99, 58, 99, 114, 101, 97, 116, 111, 114]  -- dc:creator
def qLanguage : Str := [100, 99, 58, 108, 97, 110, 103, 117, 97, 103, 101]  -- dc:language
def qGenerator : Str := [109, 101, 116, 97, 58, 103, 101, 110, 101, 114, 97, 116, 111, 114]  -- meta:generator
def qUserDefined : Str := [109, 101, 116, 97, 58, 117, 115, 101, 114, 45, 100, 101, 102, 105, 110, 101, 100]  -- meta:user-defined
def qStyle : Str := [115, 116, 121, 108, 101, 58, 115, 116, 121, 108, 101]  -- style:style
def qTextProps : Str := [115, 116, 121, 108, 101, 58, 116, 101, 120, 116, 45, 112, 114, 111, 112, 101, 114, 116, 105, 101, 115]  -- style:text-properties
def qListStyle : Str := [116, 101, 120, 116, 58, 108, 105, 115, 116, 45, 115, 116, 121, 108, 101]  -- text:list-style
def qLevelBullet : Str := [116, 101, 120, 116, 58, 108, 105, 115, 116, 45, 108, 101, 118, 101, 108, 45, 115, 116, 121, 108, 101, 45, 98, 117, 108, 108, 101, 116]  -- text:list-level-style-bullet
def qLevelNumber : Str := [116, 101, 120, 116, 58, 108, 105, 115, 116, 45, 108, 101, 118, 101, 108, 45, 115, 116, 121, 108, 101, 45, 110, 117, 109, 98, 101, 114]  -- text:list-level-style-number
def qP : Str := [116, 101, 120, 116, 58, 112]  -- text:p
def qH : Str := [116, 101, 120, 116, 58, 104]  -- text:h
def qSpan : Str := [116, 101, 120, 116, 58, 115, 112, 97, 110]  -- text:span
def qA : Str := [116, 101, 120, 116, 58, 97]  -- text:a
def qList : Str := [116, 101, 120, 116, 58, 108, 105, 115, 116]  -- text:list
def qListItem : Str := [116, 101, 120, 116, 58, 108, 105, 115, 116, 45, 105, 116, 101, 109]  -- text:list-item
def qTable : Str := [116, 97, 98, 108, 101, 58, 116, 97, 98, 108, 101]  -- table:table
def qRow : Str := [116, 97, 98, 108, 101, 58, 116, 97, 98, 108, 101, 45, 114, 111, 119]  -- table:table-row
def qCell : Str := [116, 97, 98, 108, 101, 58, 116, 97, 98, 108, 101, 45, 99, 101, 108, 108]  -- table:table-cell
def qColumn : Str := [116, 97, 98, 108, 101, 58, 116, 97, 98, 108, 101, 45, 99, 111, 108, 117, 109, 110]  -- table:table-column
def qCovered : Str := [116, 97, 98, 108, 101, 58, 99, 111, 118, 101, 114, 101, 100, 45, 116, 97, 98, 108, 101, 45, 99, 101, 108, 108]  -- table:covered-table-cell
def qFrame : Str := [100, 114, 97, 119, 58, 102, 114, 97, 109, 101]  -- draw:frame
def qTextBox : Str := [100, 114, 97, 119, 58, 116, 101, 120, 116, 45, 98, 111, 120]  -- draw:text-box
def qImage : Str := [100, 114, 97, 119, 58, 105, 109, 97, 103, 101]  -- draw:image
def qPage : Str := [100, 114, 97, 119, 58, 112, 97, 103, 101]  -- draw:page
def qNote : Str := [116, 101, 120, 116, 58, 110, 111, 116, 101]  -- text:note
def qCitation : Str := [116, 101, 120, 116, 58, 110, 111, 116, 101, 45, 99, 105, 116, 97, 116, 105, 111, 110]  -- text:note-citation
def qNoteBody : Str := [116, 101, 120, 116, 58, 110, 111, 116, 101, 45, 98, 111, 100, 121]  -- text:note-body
def qS : Str := [116, 101, 120, 116, 58, 115]  -- text:s
def qTab : Str := [116, 101, 120, 116, 58, 116, 97, 98]  -- text:tab
def qLineBreak : Str := [116, 101, 120, 116, 58, 108, 105, 110, 101, 45, 98, 114, 101, 97, 107]  -- text:line-break
def qBookmark : Str := [116, 101, 120, 116, 58, 98, 111, 111, 107, 109, 97, 114, 107]  -- text:bookmark
def qBookmarkStart : Str := [116, 101, 120, 116, 58, 98, 111, 111, 107, 109, 97, 114, 107, 45, 115, 116, 97, 114, 116]  -- text:bookmark-start
def qBookmarkEnd : Str := [116, 101, 120, 116, 58, 98, 111, 111, 107, 109, 97, 114, 107, 45, 101, 110, 100]  -- text:bookmark-end
def qBookmarkRef : Str := [116, 101, 120, 116, 58, 98, 111, 111, 107, 109, 97, 114, 107, 45, 114, 101, 102]  -- text:bookmark-ref
def qListHeader : Str := [116, 101, 120, 116, 58, 108, 105, 115, 116, 45, 104, 101, 97, 100, 101, 114]  -- text:list-header
def qHeaderRows : Str := [116, 97, 98, 108, 101, 58, 116, 97, 98, 108, 101, 45, 104, 101, 97, 100, 101, 114, 45, 114, 111, 119, 115]  -- table:table-header-rows
def qSoftPageBreak : Str := [116, 101, 120, 116, 58, 115, 111, 102, 116, 45, 112, 97, 103, 101, 45, 98, 114, 101, 97, 107]  -- text:soft-page-break
def qSection : Str := [116, 101, 120, 116, 58, 115, 101, 99, 116, 105, 111, 110]  -- text:section
def qCustomShape : Str := [100, 114, 97, 119, 58, 99, 117, 115, 116, 111, 109, 45, 115, 104, 97, 112, 101]  -- draw:custom-shape
def qRect : Str := [100, 114, 97, 119, 58, 114, 101, 99, 116]  -- draw:rect
def qEllipse : Str := [100, 114, 97, 119, 58, 101, 108, 108, 105, 112, 115, 101]  -- draw:ellipse

/-- the supported vocabulary with its (start handler, end handler): running text, then the document skeleton and the head
    part.  Running text is enumerated twice more, and the three differ: by the `flow_*` lemmas (none for list-header,
    header-rows, soft-page-break) and by the constructors of `Block` / `Inline` with their cases in `block_txt` /
    `inline_txt` (none for the drawing shapes). -/
def vocabulary : List (Str × Option HName × Option HName) := [
  (qP, some .s_text_p, some .e_text_p),
  (qH, some .s_text_h, some .e_text_h),
  (qSpan, some .s_text_span, some .e_text_span),
  (qA, some .s_text_a, some .e_text_a),
  (qList, some .s_text_list, some .e_text_list),
  (qListItem, some .s_text_list_item, some .e_text_list_item),
  (qTable, some .s_table_table, some .e_table_table),
  (qRow, some .s_table_table_row, some .e_table_table_row),
  (qCell, some .s_table_table_cell, some .e_table_table_cell),
  (qColumn, some .s_table_table_column, none),
  (qCovered, some .s_ignorexml, none),
  (qFrame, some .s_draw_frame, some .e_draw_frame),
  (qTextBox, some .s_draw_textbox, some .e_draw_textbox),
  (qCustomShape, some .s_custom_shape, some .e_custom_shape),
  (qRect, some .s_draw_shape, none),
  (qEllipse, some .s_draw_shape, none),
  (qImage, some .s_draw_image, none),
  (qPage, some .s_draw_page, some .e_draw_page),
  (qNote, some .s_text_note, none),
  (qCitation, none, some .e_text_note_citation),
  (qNoteBody, some .s_text_note_body, some .e_text_note_body),
  (qS, some .s_text_s, none),
  (qTab, some .s_text_tab, none),
  (qLineBreak, some .s_text_line_break, none),
  (qBookmark, some .s_text_bookmark, none),
  (qBookmarkStart, some .s_text_bookmark, none),
  (qBookmarkEnd, none, none),
  (qBookmarkRef, some .s_text_bookmark_ref, some .e_text_a),
  (qSection, none, none),
  (qListHeader, none, none),
  (qHeaderRows, none, none),
  (qSoftPageBreak, none, none),
  (qDocument, some .s_office_document_content, some .e_office_document_content),
  (qBody, none, none),
  (qText, some .s_office_text, some .e_office_text),
  (qSpreadsheet, some .s_office_spreadsheet, some .e_office_spreadsheet),
  (qPresentation, some .s_office_presentation, some .e_office_presentation),
  (qMeta, some .s_ignorecont, none),
  (qSettings, some .s_ignorexml, none),
  (qScripts, some .s_ignorexml, none),
  (qFontDecls, none, none),
  (qStyles, some .s_office_styles, none),
  (qAutoStyles, some .s_office_automatic_styles, none),
  (qMasterStyles, some .s_office_master_styles, none),
  (qTitle, some .s_processcont, some .e_dc_title),
  (qCreator, some .s_processcont, some .e_dc_creator),
  (qLanguage, some .s_processcont, some .e_dc_contentlanguage),
  (qGenerator, some .s_processcont, some .e_dc_metatag),
  (qUserDefined, none, none),
  (qStyle, some .s_style_style, some .e_style_style),
  (qTextProps, some .s_style_handle_properties, none),
  (qListStyle, none, none),
  (qLevelBullet, some .s_text_list_level_style_bullet, some .e_text_list_level_style_bullet),
  (qLevelNumber, some .s_text_list_level_style_number, some .e_text_list_level_style_number)
]

/-- **tie to the source**: the handler pairs of the supported vocabulary, read off the dispatch dict of a live
    `ODF2XHTML()` (regenerated on every run).  A renamed, removed or re-wired handler breaks this theorem. -/
theorem vocabulary_dispatch : ∀ e ∈ vocabulary, dispatch e.1 = e.2 := by
  decide +kernel

/-- **tie to the source** (AST of odf/odf2xhtml.py, regenerated): `writedata` writes `escape(d)`, `opentag` and `emptytag`
    quote every attribute value with `quoteattr`, and no handler or helper hands a document-derived string to the output
    any other way (write kind 9 = a string that is neither a literal, nor `escape(…)`, nor a tag helper, nor a template
    whose arguments are literals / `quoteattr(…)`, nor collected output, nor the note number).  `nsdictInjective`: odfpy's
    prefix table is injective, so the `prefix:local` strings the model dispatches on identify the qualified names. -/
theorem handlers_escape :
    coreEscapes = (true, true, true) ∧ handlerWrites.all (fun hw => !hw.2.contains 9) = true ∧
    nsdictInjective = true ∧ cssWritesSafe = true := by
  decide +kernel

/-! ## The supported documents -/

/-- the three kinds of document body (text, spreadsheet, presentation): their handlers are `html_body` at the start and
    `generate_footnotes` + `</body>` at the end -/
def BodyH (hs he : HName) : Prop :=
  (hs = .s_office_text ∧ he = .e_office_text) ∨ (hs = .s_office_spreadsheet ∧ he = .e_office_spreadsheet) ∨
  (hs = .s_office_presentation ∧ he = .e_office_presentation)

/-- **the quantifier of C18 as far as it is modelled**: a loaded document
      office:document [ meta / settings / styles …,  office:body [ office:text | spreadsheet | presentation [ running text ] ] ]
    whose head part only meets handlers that write nothing (`Head`), and whose body is running text of the supported
    vocabulary (`Flow`: paragraphs, headings (outline level absent or decimal), spans, links with a target, lists, tables,
    frames, text boxes, images, notes of the shape citation+body outside other notes, s/tab/line-break, bookmarks,
    elements without handler such as sections, ignored elements). -/
inductive Supported : Node → Prop
  | mk (qd : Str) (ad : Attrs) (pre : List Node) (qb : Str) (ab : Attrs) (qt : Str) (at_ : Attrs) (blocks : List Node)
      (hs he : HName) :
      dispatch qd = (some .s_office_document_content, some .e_office_document_content) →
      HeadL [(qd, ad)] pre → dispatch qb = (none, none) →
      dispatch qt = (some hs, some he) → BodyH hs he → FlowL false blocks →
      Supported (.elem qd ad (pre ++ [.elem qb ab [.elem qt at_ blocks]]))


/-! ## The vocabulary is supported: every element kind of the property's quantifier is running text (`Flow`) -/

/-- the handlers of a name of the vocabulary; the kernel looks the name up in the table -/
theorem disp {q : Str} {hs he : Option HName} (h : (q, hs, he) ∈ vocabulary := by decide +kernel) : dispatch q = (hs, he) :=
  vocabulary_dispatch (q, hs, he) h

theorem flow_p (b : Bool) (a : Attrs) (kids : List Node) (h : FlowL b kids) : Flow b (.elem qP a kids) :=
  .bracket b qP a kids _ _ disp (.p a) h
theorem flow_h (b : Bool) (a : Attrs) (kids : List Node) (lvl : Nat) (hl : headingLevel a = .ok lvl) (h : FlowL b kids) :
    Flow b (.elem qH a kids) := .bracket b qH a kids _ _ disp (.heading a lvl hl) h
theorem flow_span (b : Bool) (a : Attrs) (kids : List Node) (h : FlowL b kids) : Flow b (.elem qSpan a kids) :=
  .bracket b qSpan a kids _ _ disp (.span a) h
theorem flow_a (b : Bool) (a : Attrs) (kids : List Node) (v : Str) (hv : a.lookup kHref = some v) (h : FlowL b kids) :
    Flow b (.elem qA a kids) := .bracket b qA a kids _ _ disp (.link a v hv) h
theorem flow_bookmark_ref (b : Bool) (a : Attrs) (kids : List Node) (v : Str) (hv : a.lookup kRefName = some v) (h : FlowL b kids) :
    Flow b (.elem qBookmarkRef a kids) := .bracket b qBookmarkRef a kids _ _ disp (.bmref a v hv) h
theorem flow_list (b : Bool) (a : Attrs) (kids : List Node) (h : FlowL b kids) : Flow b (.elem qList a kids) :=
  .bracket b qList a kids _ _ disp (.list a) h
theorem flow_list_item (b : Bool) (a : Attrs) (kids : List Node) (h : FlowL b kids) : Flow b (.elem qListItem a kids) :=
  .bracket b qListItem a kids _ _ disp (.item a) h
theorem flow_table (b : Bool) (a : Attrs) (kids : List Node) (h : FlowL b kids) : Flow b (.elem qTable a kids) :=
  .bracket b qTable a kids _ _ disp (.table a) h
theorem flow_row (b : Bool) (a : Attrs) (kids : List Node) (h : FlowL b kids) : Flow b (.elem qRow a kids) :=
  .bracket b qRow a kids _ _ disp (.row a) h
theorem flow_cell (b : Bool) (a : Attrs) (kids : List Node) (h : FlowL b kids) : Flow b (.elem qCell a kids) :=
  .bracket b qCell a kids _ _ disp (.cell a) h
theorem flow_frame (b : Bool) (a : Attrs) (kids : List Node) (h : FlowL b kids) : Flow b (.elem qFrame a kids) :=
  .bracket b qFrame a kids _ _ disp (.frame a) h
/-- drawing shapes that hold paragraphs (e7e9e0f): draw:custom-shape is a <div> like the frame, draw:rect / draw:ellipse
    (handler `s_draw_shape`) only write the pending text -/
theorem flow_custom_shape (b : Bool) (a : Attrs) (kids : List Node) (h : FlowL b kids) : Flow b (.elem qCustomShape a kids) :=
  .bracket b qCustomShape a kids _ _ disp (.shape a) h
theorem flow_rect (b : Bool) (a : Attrs) (kids : List Node) (h : FlowL b kids) : Flow b (.elem qRect a kids) :=
  .leaf b qRect a kids _ disp (.drawshape a) h
theorem flow_ellipse (b : Bool) (a : Attrs) (kids : List Node) (h : FlowL b kids) : Flow b (.elem qEllipse a kids) :=
  .leaf b qEllipse a kids _ disp (.drawshape a) h
theorem flow_text_box (b : Bool) (a : Attrs) (kids : List Node) (h : FlowL b kids) : Flow b (.elem qTextBox a kids) :=
  .bracket b qTextBox a kids _ _ disp (.textbox a) h
theorem flow_page (b : Bool) (a : Attrs) (kids : List Node) (h : FlowL b kids) : Flow b (.elem qPage a kids) :=
  .bracket b qPage a kids _ _ disp (.page a) h
theorem flow_column (b : Bool) (a : Attrs) (n : Nat) (hn : pyInt ((a.lookup kColsRepeated).getD sOne) = some n) :
    Flow b (.elem qColumn a []) := .leaf b qColumn a [] _ disp (.column a n hn) (.nil b)
theorem flow_covered (b : Bool) (a : Attrs) (kids : List Node) : Flow b (.elem qCovered a kids) :=
  .ignored b qCovered a kids none disp
theorem flow_image (b : Bool) (a : Attrs) (v : Str) (hv : a.lookup kHref = some v) : Flow b (.elem qImage a []) :=
  .leaf b qImage a [] _ disp (.image a v hv) (.nil b)
theorem flow_s (b : Bool) (a : Attrs) (n : Nat) (hn : pyInt ((a.lookup kC).getD sOne) = some n) : Flow b (.elem qS a []) :=
  .leaf b qS a [] _ disp (.s a n hn) (.nil b)
theorem flow_tab (b : Bool) (a : Attrs) : Flow b (.elem qTab a []) := .leaf b qTab a [] _ disp (.tab a) (.nil b)
theorem flow_line_break (b : Bool) (a : Attrs) : Flow b (.elem qLineBreak a []) :=
  .leaf b qLineBreak a [] _ disp (.br a) (.nil b)
theorem flow_bookmark (b : Bool) (a : Attrs) (v : Str) (hv : a.lookup kName = some v) : Flow b (.elem qBookmark a []) :=
  .leaf b qBookmark a [] _ disp (.bookmark a v hv) (.nil b)
theorem flow_bookmark_start (b : Bool) (a : Attrs) (v : Str) (hv : a.lookup kName = some v) : Flow b (.elem qBookmarkStart a []) :=
  .leaf b qBookmarkStart a [] _ disp (.bookmark a v hv) (.nil b)
theorem flow_bookmark_end (b : Bool) (a : Attrs) : Flow b (.elem qBookmarkEnd a []) :=
  .transparent b qBookmarkEnd a [] disp (.nil b)
theorem flow_section (b : Bool) (a : Attrs) (kids : List Node) (h : FlowL b kids) : Flow b (.elem qSection a kids) :=
  .transparent b qSection a kids disp h
/-- a note (foot note or end note) outside other notes: citation with its label, body with running text -/
theorem flow_note (a ac ab : Attrs) (label : List Str) (kids : List Node) (h : FlowL true kids) :
    Flow false (.elem qNote a [.elem qCitation ac (label.map Node.text), .elem qNoteBody ab kids]) :=
  .note qNote a qCitation ac label qNoteBody ab kids disp disp disp h

/-- a text document with the given running text and nothing before the body -/
def textDoc (blocks : List Node) : Node := .elem qDocument [] [.elem qBody [] [.elem qText [] blocks]]

theorem supported_textDoc (blocks : List Node) (h : FlowL false blocks) : Supported (textDoc blocks) :=
  Supported.mk qDocument [] [] qBody [] qText [] blocks _ _ disp (.nil _) disp disp
    (Or.inl ⟨rfl, rfl⟩) h

/-- the hypotheses are satisfiable: <p>a<span>b</span><s/>, a foot note</p> <h outline-level="2">c</h> <list><item><p>d</p></item></list> -/
example : Supported (textDoc
    [.elem qP [] [.text [97], .elem qSpan [] [.text [98]], .elem qS [] [],
                  .elem qNote [] [.elem qCitation [] [.text [49]], .elem qNoteBody [] [.elem qP [] [.text [102]]]]],
     .elem qH [(kOutline, [50])] [.text [99]],
     .elem qList [] [.elem qListItem [] [.elem qP [] [.text [100]]]]]) := by
  have one {b : Bool} {n : Node} (h : Flow b n) : FlowL b [n] := .cons _ _ _ h (.nil _)
  have para (b : Bool) (x : Cp) : Flow b (.elem qP [] [.text [x]]) := flow_p _ _ _ (one (.text _ _))
  exact supported_textDoc _ (.cons _ _ _
    (flow_p _ _ _ (.cons _ _ _ (.text _ _) (.cons _ _ _ (flow_span _ _ _ (one (.text _ _)))
      (.cons _ _ _ (flow_s _ _ 1 (by decide)) (one (flow_note [] [] [] [[49]] _ (one (para _ _))))))))
    (.cons _ _ _ (flow_h _ _ _ 2 (by rfl) (one (.text _ _))) (one (flow_list _ _ _ (one (flow_list_item _ _ _ (one (para _ _))))))))

/-! ## total and balanced -/

theorem runH_body (cfg : Cfg) (ctx : Ctx) {hs he : HName} (hb : BodyH hs he) (q : Str) (a : Attrs) (pe pc : Bool) (st : St) :
    runH cfg ctx hs q a pe pc st = (htmlBody cfg st).map (fun s => (s, pe, pc)) ∧
    runH cfg ctx he q a pe pc st =
      (do let st ← generateFootnotes cfg st; closetag nBody true st : M St).map (fun s => (s, pe, pc)) := by
  rcases hb with ⟨rfl, rfl⟩ | ⟨rfl, rfl⟩ | ⟨rfl, rfl⟩ <;> exact ⟨rfl, rfl⟩

/-- what `s_office_document_content` writes first -/
def docStart : List Tok :=
  [.raw .doctype, .otag nHtml [(aXmlns, sXhtmlNs)] true, .otag nHead [] true,
   .etag nMeta [(aHttpEquiv, sContentType), (aContent, sTextHtml)], .raw .titleOpen, .raw .titleClose]

/-- **the skeleton around the running text**: `s_office_document_content`, the head part and `html_body` lead to a state
    `st1`; once the running text is walked from there with an effect `Eff`, `generate_footnotes` and the closing tags
    complete a Dyck word whose text is what the running text wrote, followed by the collected notes.  Totality and balance
    put `walkList_flow` in, completeness `walkList_txt`. -/
theorem convert_doc (cfg : Cfg) (qd : Str) (ad : Attrs) (pre : List Node) (qb : Str) (ab : Attrs) (qt : Str) (at_ : Attrs)
    (blocks : List Node) (hs he : HName)
    (hdd : dispatch qd = (some .s_office_document_content, some .e_office_document_content))
    (hpre : HeadL [(qd, ad)] pre) (hdb : dispatch qb = (none, none)) (hdt : dispatch qt = (some hs, some he))
    (hbody : BodyH hs he) :
    ∃ st1, Inv false st1 ∧
      ∀ st2, walkList cfg ⟨[(qt, at_), (qb, ab), (qd, ad)], true, true⟩ st1 blocks = .ok st2 → Eff false st1 st2 →
        ∃ toks, convert cfg (.elem qd ad (pre ++ [.elem qb ab [.elem qt at_ blocks]])) = .ok toks ∧ Dyck toks ∧
          textOf toks = textOf st2.out ++ notesText st2.notes := by
  -- the state after the start handler, kept opaque: only these seven facts about it are used
  obtain ⟨sa, hra, hoa, hda, hsva, hnba, hnoa, hcua⟩ : ∃ sa, runH cfg ⟨[], true, true⟩ .s_office_document_content qd ad true true St.init =
      .ok (sa, true, true) ∧ sa.out = docStart ∧ sa.depth = 2 ∧ sa.saved = none ∧ sa.nbOpen = false ∧ sa.notes = [] ∧ sa.cur = 0 :=
    ⟨_, rfl, rfl, rfl, rfl, rfl, rfl, rfl⟩
  obtain ⟨sb, hwpre, qe⟩ := walkList_head_of cfg pre [(qd, ad)] true true sa hpre
  have hib : Inv false sb := ⟨by rw [qe.saved, hsva]; rfl, by rw [qe.nbOpen, hnba], by rw [qe.cur, qe.notes, hcua, hnoa]; rfl⟩
  obtain ⟨st1, w1, h1, ho1, hd1, hs1, hb1⟩ := htmlBody_spec cfg sb (by rw [qe.depth, hda]; decide)
  refine ⟨st1, hs1.inv hib, fun st2 h2 e2 => ?_⟩
  obtain ⟨N, hN, okN, _⟩ := e2.notes
  have hn2 : NotesOK st2.notes := by rw [hN, hs1.notes, qe.notes, hnoa]; simpa using okN
  obtain ⟨st3, w3, h3, ho3, hd3, hb3, ht3⟩ := generateFootnotes_spec cfg st2 hn2 e2.cur
  have hdep : st3.depth = 2 := by rw [hd3, e2.depth, hd1, qe.depth, hda]
  -- office:text (or spreadsheet, presentation) below office:body below office:document
  have hwt : walk cfg ⟨[(qb, ab), (qd, ad)], true, true⟩ sb (.elem qt at_ blocks) = .ok (closePure nBody true st3) :=
    walk_bracket hdt rfl (by rw [(runH_body cfg _ hbody ..).1, h1]; rfl) h2
      (by rw [(runH_body cfg _ hbody ..).2]; simp only [bind, Except.bind, h3, closetag_ok (by omega : 0 < st3.depth)]; rfl)
  have hwl : walkList cfg ⟨[(qd, ad)], true, true⟩ sa (pre ++ [.elem qb ab [.elem qt at_ blocks]]) = .ok (closePure nBody true st3) := by
    rw [walkList_append, hwpre]
    simp only [walkList, walk_transparent (ctx := ⟨[(qd, ad)], true, true⟩) hdb rfl, hwt]
  refine ⟨(closePure nHtml true (closePure nBody true st3)).out, ?_, ?_, ?_⟩
  · -- the conversion succeeds
    unfold convert
    rw [walk_bracket (ctx := ⟨[], true, true⟩) hdd rfl hra hwl
      (show runH cfg _ .e_office_document_content qd ad true true _ = .ok (closePure nHtml true (closePure nBody true st3), true, true) by
        unfold runH; simp only [closetag_ok (by simp [hdep] : 0 < (closePure nBody true st3).depth)]; rfl)]
    rfl
  · -- Dyck
    have hbal : bal st2.out [] = some [nBody, nHtml] :=
      e2.stack [] _ (by rw [ho1, bal_append, qe.out, hoa]; exact hb1 [nHtml])
    show bal (st3.out ++ [Tok.ctag nBody true] ++ [Tok.ctag nHtml true]) [] = some []
    rw [bal_append, bal_append, ho3, bal_append, hbal]
    simp [hb3 _, bal, br]
  · -- the text
    simp [ho3, ht3, tokText]

/-- **C18 (total, balanced) — partial**: for every supported document (see `Supported`) and both settings of
    generate_css, whatever the opaque style sheet text is, the conversion raises no exception and the token sequence it
    writes is a Dyck word: every start handler's tag is closed by the matching end handler, properly nested, foot notes
    included.  Outside the statement: unsupported vocabulary. -/
theorem total_balanced_partial (cfg : Cfg) (doc : Node) (h : Supported doc) :
    ∃ toks, convert cfg doc = .ok toks ∧ Dyck toks := by
  cases h with
  | mk qd ad pre qb ab qt at_ blocks hs he hdd hpre hdb hdt hbody hflow =>
    obtain ⟨st1, hi1, hrest⟩ := convert_doc cfg qd ad pre qb ab qt at_ blocks hs he hdd hpre hdb hdt hbody
    obtain ⟨st2, h2, e2⟩ := walkList_flow cfg blocks false ⟨[(qt, at_), (qb, ab), (qd, ad)], true, true⟩ st1 hflow rfl (by simp) hi1
    obtain ⟨toks, ht, hD, _⟩ := hrest st2 h2 e2
    exact ⟨toks, ht, hD⟩

/-- **C18 (total) — partial**: a supported document is converted without exception -/
theorem total_partial (cfg : Cfg) (doc : Node) (h : Supported doc) : ∀ e, convert cfg doc ≠ .error e := by
  obtain ⟨toks, ht, _⟩ := total_balanced_partial cfg doc h
  intro e he; rw [ht] at he; cases he

/-- **C18 (balanced) — partial**: the token sequence of a supported document is a Dyck word -/
theorem balanced_partial (cfg : Cfg) (doc : Node) (h : Supported doc) (toks : List Tok) (ht : convert cfg doc = .ok toks) :
    Dyck toks := by
  obtain ⟨toks', ht', hd⟩ := total_balanced_partial cfg doc h
  rw [ht] at ht'; cases ht'; exact hd

/-! ## escaped -/

/-- **C18 (escaped) — token level**: a document string can reach the rendered output in three ways only, and each is
    escaped at render time:
    * as a `text` token — rendered `escape(s)`: no `<`, no `>`, and the reference decoder gives `s` back, so every `&`
      in it begins `&amp;`, `&lt;` or `&gt;`;
    * as an attribute value of an `otag`/`etag` token — rendered `name=quoteattr(v)` (see `attr_value_quoted`);
    * as the style sheet `Raw.css` inside the CDATA section — written through `cdataSafe` (`css_section_partial`).
    All other `raw` tokens are constants of the converter or the decimal note number (`raw_tokens_constant`). -/
theorem text_token_escaped (s : Str) :
    renderTok (.text s) = sxEscape s ∧ 60 ∉ renderTok (.text s) ∧ 62 ∉ renderTok (.text s) ∧
      decText (s.length + 1) (renderTok (.text s)) = some s :=
  ⟨rfl, (sxEscape_no_markup s).1, (sxEscape_no_markup s).2, decText_sxEscape s⟩

/-- **C18 (escaped) — attribute values**: an attribute is rendered `name="…"` or `name='…'`; the reference XML
    attribute-value parser reads exactly `v` back and stops behind the closing quote, whatever quotes, `<`, `&`, CR,
    LF or TAB the value contains (v a string of XML characters as load() delivers them). -/
theorem attr_value_quoted (k v X : Str) (hv : Xml.StrOK v) (hf : ∀ c ∈ v, Xml.filtered c = false) :
    ∃ q r1, renderAttr (k, v) ++ X = k ++ 61 :: q :: r1 ∧ (q = 34 ∨ q = 39) ∧
      Spec.parseAttVal (r1.length + 1) q r1 = some (v, X) ∧ 60 ∉ sxQuoteattr v := by
  obtain ⟨q, r1, h1, h2, h3⟩ := attr_roundtrip v X hv hf
  exact ⟨q, r1, by simp [renderAttr, h1], h2, h3, sxQuoteattr_no_lt v⟩

/-- the `raw` tokens: the opaque style sheet, the note number, or one of eight literal strings of odf2xhtml.py -/
theorem raw_tokens_constant (r : Raw) :
    (∃ s, r = .css s) ∨ (∃ n, r = .num n ∧ renderRaw r = natToStr n) ∨
      renderRaw r ∈ [sDoctype, sNbsp, [32], sTitleOpen, sTitleClose, sCdataOpen, sCdataClose, defaultStyles] := by
  cases r with
  | css s => exact .inl ⟨s, rfl⟩
  | num n => exact .inr (.inl ⟨n, rfl, rfl⟩)
  | _ => exact .inr (.inr (by simp [renderRaw]))

/-- **C18 (escaped) — whole output**: markup characters in text, meta data, link targets or style names add no `<`:
    the rendered output contains exactly as many `<` as the same token sequence with every text and every attribute
    value emptied. -/
theorem escaped_no_new_markup (ts : List Tok) : (render ts).count 60 = (render (ts.map shape)).count 60 := by
  unfold render
  induction ts with
  | nil => rfl
  | cons t r ih => simp only [List.flatMap_cons, List.map_cons, List.count_append, ih, count_lt_renderTok t]

/-- **the style sheet** (writer as of 22e9516): the style sheet text is a parameter of the token model; its writer is
    covered by this theorem — the regenerated AST fact `cssWritesSafe` (`handlers_escape`) says every selector and
    property line goes through `cdataSafe`, and for such lines the CDATA section is read back exactly and ends
    at the converter's own `]]>`, whatever `]]>`, `]]]>`, `]]>]]>` … the style names and values contain.  (Lines of XML
    characters without CR — the reference parser's sub-language has no literal CR.) -/
theorem css_section_partial (ls : List Str) (acc Y : Str) (fuel : Nat)
    (hx : ∀ l ∈ ls, ∀ c ∈ l, Spec.isXmlChar c = true ∧ c ≠ 13)
    (hf : (ls.flatMap (fun l => cdataSafe (l ++ [10])) ++ [47, 42] ++ Xml.CDC ++ Y).length + 1 ≤ fuel) :
    ∃ fuel', Y.length + 1 ≤ fuel' ∧
      Spec.parseForest fuel true acc (ls.flatMap (fun l => cdataSafe (l ++ [10])) ++ [47, 42] ++ Xml.CDC ++ Y) =
        Spec.parseForest fuel' false (acc ++ (ls.flatMap (· ++ [10]) ++ [47, 42])) Y := by
  have hmem : ∀ c ∈ ls.flatMap (· ++ [10]) ++ [47, 42], Spec.isXmlChar c = true ∧ c ≠ 13 :=
    List.forall_mem_append.mpr ⟨List.forall_mem_flatMap.mpr fun l hl =>
      List.forall_mem_append.mpr ⟨hx l hl, by decide⟩, by decide⟩
  -- what was written is the section body of the lines followed by `/*`: no CR to carry outside, and making the text
  -- safe line by line is making it safe as a whole
  have hin : ls.flatMap (fun l => cdataSafe (l ++ [10])) ++ [47, 42] ++ Xml.CDC ++ Y =
      Xml.bodyC (ls.flatMap (· ++ [10]) ++ [47, 42]) ++ 93 :: 93 :: 62 :: Y := by
    unfold Xml.bodyC
    rw [Xml.replace1_of_not_mem _ _ _ fun hm => (Xml.mem_replCdataEnd hm).elim (fun h => (hmem 13 h).2 rfl) (by decide)]
    have h := cdataSafe_lines ls [47, 42]
    simp only [cdataSafe] at h ⊢
    rw [← h]
    simp [Xml.replCdataEnd, Xml.CDC]
  rw [hin] at hf ⊢
  exact Xml.pf_bodyC Y _ acc fuel (fun c hc => (hmem c hc).1) hf

/-! ## complete -/

/-- completeness for running text in the cleanliness judgement `Txt` (the general form; `complete_partial` below is the
    statement for documents that follow the ODF content model) -/
theorem complete_txt (cfg : Cfg) (qd : Str) (ad : Attrs) (pre : List Node) (qb : Str) (ab : Attrs) (qt : Str) (at_ : Attrs)
    (blocks : List Node) (hs he : HName)
    (hdd : dispatch qd = (some .s_office_document_content, some .e_office_document_content))
    (hpre : HeadL [(qd, ad)] pre) (hdb : dispatch qb = (none, none)) (hdt : dispatch qt = (some hs, some he))
    (hbody : BodyH hs he) (ht : TxtL false true true blocks) :
    ∃ toks, convert cfg (.elem qd ad (pre ++ [.elem qb ab [.elem qt at_ blocks]])) = .ok toks ∧
      (visMainL blocks ++ visNotesL blocks).Sublist (textOf toks) := by
  obtain ⟨st1, hi1, hrest⟩ := convert_doc cfg qd ad pre qb ab qt at_ blocks hs he hdd hpre hdb hdt hbody
  obtain ⟨st2, h2, e2, t2⟩ := walkList_txt cfg blocks false true true ⟨[(qt, at_), (qb, ab), (qd, ad)], true, true⟩ st1 ht rfl rfl
    (by simp) hi1
  obtain ⟨toks, hc, _, htx⟩ := hrest st2 h2 e2
  refine ⟨toks, hc, ?_⟩
  have hnotes : (visNotesL blocks).Sublist (notesText st2.notes) := by simpa using t2.notes [] (by simp)
  rw [htx]; exact t2.clean.append hnotes

/-! ### the five ways a handler pair treats pending text (`hkind` of the start and the end handler), each one
     application of a constructor of `Txt` -/

theorem Txt.purgeFlush {b c2 : Bool} {q : Str} {a : Attrs} {kids : List Node} {hs he : HName}
    (hd : dispatch q = (some hs, some he)) (hb : BracketH hs he a)
    (hks : hkind hs = some .purge := by rfl) (hke : hkind he = some .flush := by rfl)
    (hk : TxtL b true c2 kids) : Txt b true true (.elem q a kids) :=
  .bracket b true true c2 true q a kids hs he .purge .flush hd hb hks hke ⟨rfl, rfl⟩ hk rfl

theorem Txt.flushFlush {b c c2 : Bool} {q : Str} {a : Attrs} {kids : List Node} {hs he : HName}
    (hd : dispatch q = (some hs, some he)) (hb : BracketH hs he a)
    (hks : hkind hs = some .flush := by rfl) (hke : hkind he = some .flush := by rfl)
    (hk : TxtL b true c2 kids) : Txt b c true (.elem q a kids) :=
  .bracket b c true c2 true q a kids hs he .flush .flush hd hb hks hke rfl hk rfl

theorem Txt.flushKeep {b c c' : Bool} {q : Str} {a : Attrs} {kids : List Node} {hs he : HName}
    (hd : dispatch q = (some hs, some he)) (hb : BracketH hs he a)
    (hks : hkind hs = some .flush := by rfl) (hke : hkind he = some .keep := by rfl)
    (hk : TxtL b true c' kids) : Txt b c c' (.elem q a kids) :=
  .bracket b c true c' c' q a kids hs he .flush .keep hd hb hks hke rfl hk rfl

theorem Txt.keepKeep {b c c' : Bool} {q : Str} {a : Attrs} {kids : List Node} {hs he : HName}
    (hd : dispatch q = (some hs, some he)) (hb : BracketH hs he a)
    (hks : hkind hs = some .keep := by rfl) (hke : hkind he = some .keep := by rfl)
    (hk : TxtL b c c' kids) : Txt b c c' (.elem q a kids) :=
  .bracket b c c c' c' q a kids hs he .keep .keep hd hb hks hke rfl hk rfl

theorem Txt.leafFlush {b c : Bool} {q : Str} {a : Attrs} {hs : HName}
    (hd : dispatch q = (some hs, none)) (hl : LeafH hs a) (hks : hkind hs = some .flush := by rfl) :
    Txt b c true (.elem q a []) :=
  .leaf b c true true q a [] hs .flush hd hl hks rfl (.nil b true)

/-- a drawing shape writes the pending text before its content (e7e9e0f): whatever is pending, its content starts clean
    (class `x-pending-before-shape` of harness/c18gen.py).  This puts the shapes into `Txt`, the class of `complete_txt`;
    `Block` / `Inline`, the class of `complete_partial`, have no constructor for them. -/
theorem txt_custom_shape (b c c' : Bool) (a : Attrs) (kids : List Node) (h : TxtL b true c' kids) :
    Txt b c c' (.elem qCustomShape a kids) :=
  Txt.flushKeep disp (.shape a) (hk := h)
theorem txt_rect (b c c' : Bool) (a : Attrs) (kids : List Node) (h : TxtL b true c' kids) : Txt b c c' (.elem qRect a kids) :=
  .leaf b c true c' qRect a kids _ .flush disp (.drawshape a) rfl rfl h
theorem txt_ellipse (b c c' : Bool) (a : Attrs) (kids : List Node) (h : TxtL b true c' kids) : Txt b c c' (.elem qEllipse a kids) :=
  .leaf b c true c' qEllipse a kids _ .flush disp (.drawshape a) rfl rfl h

/-! ### the ODF content model of the supported vocabulary -/

mutual
/-- `Block b n`: an element that stands where ODF allows no character data — a paragraph or heading (with paragraph
    content), or an element-only container (list, list header, list item, table, header rows, row, cell, section, text box,
    slide) whose children are
    `Block` again, or a column / covered cell / image.  `b` = inside a note body. -/
inductive Block : Bool → Node → Prop
  | p (b a kids) : (∀ k ∈ kids, Inline b k) → Block b (.elem qP a kids)
  | h (b a kids lvl) : headingLevel a = .ok lvl → (∀ k ∈ kids, Inline b k) → Block b (.elem qH a kids)
  | list (b a kids) : (∀ k ∈ kids, Block b k) → Block b (.elem qList a kids)
  | listItem (b a kids) : (∀ k ∈ kids, Block b k) → Block b (.elem qListItem a kids)
  | listHeader (b a kids) : (∀ k ∈ kids, Block b k) → Block b (.elem qListHeader a kids)
  | headerRows (b a kids) : (∀ k ∈ kids, Block b k) → Block b (.elem qHeaderRows a kids)
  | softPageBreak (b a) : Block b (.elem qSoftPageBreak a [])
  | table (b a kids) : (∀ k ∈ kids, Block b k) → Block b (.elem qTable a kids)
  | row (b a kids) : (∀ k ∈ kids, Block b k) → Block b (.elem qRow a kids)
  | cell (b a kids) : (∀ k ∈ kids, Block b k) → Block b (.elem qCell a kids)
  | sect (b a kids) : (∀ k ∈ kids, Block b k) → Block b (.elem qSection a kids)
  | textBox (b a kids) : (∀ k ∈ kids, Block b k) → Block b (.elem qTextBox a kids)
  | page (b a kids) : (∀ k ∈ kids, Block b k) → Block b (.elem qPage a kids)
  | frame (b a kids) : (∀ k ∈ kids, Block b k) → Block b (.elem qFrame a kids)
  | column (b a n) : pyInt ((a.lookup kColsRepeated).getD sOne) = some n → Block b (.elem qColumn a [])
  | covered (b a kids) : Block b (.elem qCovered a kids)
  | image (b a v) : a.lookup kHref = some v → Block b (.elem qImage a [])
/-- `Inline b n`: paragraph content — character data, spans, links, bookmark references, text:s / tab / line-break,
    bookmarks, frames (with text boxes and images), and — outside note bodies — notes -/
inductive Inline : Bool → Node → Prop
  | text (b s) : Inline b (.text s)
  | span (b a kids) : (∀ k ∈ kids, Inline b k) → Inline b (.elem qSpan a kids)
  | link (b a kids v) : a.lookup kHref = some v → (∀ k ∈ kids, Inline b k) → Inline b (.elem qA a kids)
  | bookmarkRef (b a kids v) : a.lookup kRefName = some v → (∀ k ∈ kids, Inline b k) → Inline b (.elem qBookmarkRef a kids)
  | s (b a n) : pyInt ((a.lookup kC).getD sOne) = some n → Inline b (.elem qS a [])
  | tab (b a) : Inline b (.elem qTab a [])
  | lineBreak (b a) : Inline b (.elem qLineBreak a [])
  | bookmark (b a v) : a.lookup kName = some v → Inline b (.elem qBookmark a [])
  | bookmarkStart (b a v) : a.lookup kName = some v → Inline b (.elem qBookmarkStart a [])
  | bookmarkEnd (b a) : Inline b (.elem qBookmarkEnd a [])
  | softPageBreak (b a) : Inline b (.elem qSoftPageBreak a [])
  | frame (b a kids) : (∀ k ∈ kids, Block b k) → Inline b (.elem qFrame a kids)
  | note (a ac ab) (label : List Str) (kids) : (∀ k ∈ kids, Block true k) →
      Inline false (.elem qNote a [.elem qCitation ac (label.map Node.text), .elem qNoteBody ab kids])
end

theorem txtL_of_blocks {b : Bool} {l : List Node} (h : ∀ k ∈ l, Txt b true true k) : TxtL b true true l := by
  induction l with
  | nil => exact .nil _ _
  | cons n ns ih => exact .cons _ _ true _ _ _ (h n (by simp)) (ih (fun k hk => h k (by simp [hk])))

theorem txtL_of_inlines {b : Bool} {l : List Node} (h : ∀ k ∈ l, ∀ c, ∃ c', Txt b c c' k) : ∀ c, ∃ c', TxtL b c c' l := by
  induction l with
  | nil => exact fun c => ⟨c, .nil _ _⟩
  | cons n ns ih =>
    intro c
    obtain ⟨c1, h1⟩ := h n (by simp) c
    obtain ⟨c2, h2⟩ := ih (fun k hk => h k (by simp [hk])) c1
    exact ⟨c2, .cons _ _ c1 _ _ _ h1 h2⟩

mutual
/-- an element of the content model never purges pending visible text: it starts clean and ends clean.  Paragraphs,
    headings and the element-only containers discard the pending data at their start tag (`purge`: they need a clean
    start) and write it before their end tag (`flush`). -/
theorem block_txt {n : Node} {b : Bool} (h : Block b n) : Txt b true true n := by
  match h with
  -- paragraph content inside, pending at the end tag whatever it is
  | .p _ a kids hk =>
    obtain ⟨c2, h2⟩ := txtL_of_inlines (fun k hm c => inline_txt k b c (hk k hm)) true
    exact Txt.purgeFlush disp (.p a) (hk := h2)
  | .h _ a kids lvl hl hk =>
    obtain ⟨c2, h2⟩ := txtL_of_inlines (fun k hm c => inline_txt k b c (hk k hm)) true
    exact Txt.purgeFlush disp (.heading a lvl hl) (hk := h2)
  -- element-only containers with handlers: blocks inside
  | .list _ a kids hk => exact Txt.purgeFlush disp (.list a) (hk := txtL_of_blocks fun k hm => block_txt (hk k hm))
  | .listItem _ a kids hk => exact Txt.purgeFlush disp (.item a) (hk := txtL_of_blocks fun k hm => block_txt (hk k hm))
  | .table _ a kids hk => exact Txt.purgeFlush disp (.table a) (hk := txtL_of_blocks fun k hm => block_txt (hk k hm))
  | .row _ a kids hk => exact Txt.purgeFlush disp (.row a) (hk := txtL_of_blocks fun k hm => block_txt (hk k hm))
  | .cell _ a kids hk => exact Txt.purgeFlush disp (.cell a) (hk := txtL_of_blocks fun k hm => block_txt (hk k hm))
  -- a frame writes the pending text before it opens (29b6eef); text box and slide leave it alone
  | .frame _ a kids hk => exact Txt.flushKeep disp (.frame a) (hk := txtL_of_blocks fun k hm => block_txt (hk k hm))
  | .textBox _ a kids hk => exact Txt.keepKeep disp (.textbox a) (hk := txtL_of_blocks fun k hm => block_txt (hk k hm))
  | .page _ a kids hk => exact Txt.keepKeep disp (.page a) (hk := txtL_of_blocks fun k hm => block_txt (hk k hm))
  -- elements without handler: their children are walked as if they stood in the parent
  | .listHeader _ a kids hk => exact .transparent b true true qListHeader a kids disp (txtL_of_blocks fun k hm => block_txt (hk k hm))
  | .headerRows _ a kids hk => exact .transparent b true true qHeaderRows a kids disp (txtL_of_blocks fun k hm => block_txt (hk k hm))
  | .sect _ a kids hk => exact .transparent b true true qSection a kids disp (txtL_of_blocks fun k hm => block_txt (hk k hm))
  | .softPageBreak _ a => exact .transparent b true true qSoftPageBreak a [] disp (.nil b true)
  | .column _ a n hn => exact .leaf b true true true qColumn a [] _ .purge disp (.column a n hn) rfl ⟨rfl, rfl⟩ (.nil b true)
  | .covered _ a kids => exact .ignored b true qCovered a kids none disp
  | .image _ a v hv => exact .leaf b true true true qImage a [] _ .keep disp (.image a v hv) rfl rfl (.nil b true)
termination_by structural h
/-- paragraph content copes with pending text: every handler writes it before it purges (text:s: ff3c76c) -/
theorem inline_txt (n : Node) (b c : Bool) (h : Inline b n) : ∃ c', Txt b c c' n := by
  match h with
  | .text _ s => exact ⟨false, .text _ _ _⟩
  | .span _ a kids hk =>
    obtain ⟨c2, h2⟩ := txtL_of_inlines (fun k hm c => inline_txt k b c (hk k hm)) true
    exact ⟨true, Txt.flushFlush disp (.span a) (hk := h2)⟩
  | .link _ a kids v hv hk =>
    obtain ⟨c2, h2⟩ := txtL_of_inlines (fun k hm c => inline_txt k b c (hk k hm)) true
    exact ⟨true, Txt.flushFlush disp (.link a v hv) (hk := h2)⟩
  | .bookmarkRef _ a kids v hv hk =>
    obtain ⟨c2, h2⟩ := txtL_of_inlines (fun k hm c => inline_txt k b c (hk k hm)) true
    exact ⟨true, Txt.flushFlush disp (.bmref a v hv) (hk := h2)⟩
  | .s _ a n hn => exact ⟨true, Txt.leafFlush disp (.s a n hn)⟩
  | .tab _ a => exact ⟨true, Txt.leafFlush disp (.tab a)⟩
  | .lineBreak _ a => exact ⟨true, Txt.leafFlush disp (.br a)⟩
  | .bookmark _ a v hv => exact ⟨true, Txt.leafFlush disp (.bookmark a v hv)⟩
  | .bookmarkStart _ a v hv => exact ⟨true, Txt.leafFlush disp (.bookmark a v hv)⟩
  | .bookmarkEnd _ a => exact ⟨c, .transparent b c c qBookmarkEnd a [] disp (.nil b c)⟩
  | .softPageBreak _ a => exact ⟨c, .transparent b c c qSoftPageBreak a [] disp (.nil b c)⟩
  | .frame _ a kids hk => exact ⟨true, Txt.flushKeep disp (.frame a) (hk := txtL_of_blocks fun k hm => block_txt (hk k hm))⟩
  | .note a ac ab label kids hk =>
    exact ⟨true, .note c qNote a qCitation ac label qNoteBody ab kids disp disp disp
      (txtL_of_blocks fun k hm => block_txt (hk k hm))⟩
termination_by structural h
end

/-- **C18 (complete) — partial**: for a document whose head only meets handlers that write nothing and whose body is built
    from the supported vocabulary according to the ODF content model (`Block` / `Inline`: character data only in paragraph
    content), the conversion succeeds and the document's visible text — paragraphs, headings, list items, table cells,
    links, text boxes in document order, then the foot note bodies in document order — is a subsequence of the text tokens
    of the output, CHARACTER FOR CHARACTER (no white space normalisation is needed for XHTML).  No finding is excluded:
    every handler that discards `self.data` is only reached with nothing visible pending (frames: 29b6eef, text:s: ff3c76c).
    "partial" = the vocabulary (`Block`/`Inline`: no drawing shapes, see `txt_custom_shape`), and the style sheet text
    being a parameter. -/
theorem complete_partial (cfg : Cfg) (qd : Str) (ad : Attrs) (pre : List Node) (qb : Str) (ab : Attrs) (qt : Str) (at_ : Attrs)
    (blocks : List Node) (hs he : HName)
    (hdd : dispatch qd = (some .s_office_document_content, some .e_office_document_content))
    (hpre : HeadL [(qd, ad)] pre) (hdb : dispatch qb = (none, none)) (hdt : dispatch qt = (some hs, some he))
    (hbody : BodyH hs he) (hb : ∀ k ∈ blocks, Block false k) :
    ∃ toks, convert cfg (.elem qd ad (pre ++ [.elem qb ab [.elem qt at_ blocks]])) = .ok toks ∧
      (visMainL blocks ++ visNotesL blocks).Sublist (textOf toks) :=
  complete_txt cfg qd ad pre qb ab qt at_ blocks hs he hdd hpre hdb hdt hbody
    (txtL_of_blocks fun k hk => block_txt (hb k hk))

/-- Python's `str.isspace`, as in `Moin.isSpace`; dropping white space on both sides keeps the subsequence -/
def nonWs (s : Str) : Str := s.filter (fun c => !Moin.isSpace c)

/-- **C18 (complete), in the form of the design — partial**: `Sublist (nonWs (visibleText t)) (nonWs (textOf (convert t)))` -/
theorem complete_nonWs_partial (cfg : Cfg) (qd : Str) (ad : Attrs) (pre : List Node) (qb : Str) (ab : Attrs) (qt : Str) (at_ : Attrs)
    (blocks : List Node) (hs he : HName)
    (hdd : dispatch qd = (some .s_office_document_content, some .e_office_document_content))
    (hpre : HeadL [(qd, ad)] pre) (hdb : dispatch qb = (none, none)) (hdt : dispatch qt = (some hs, some he))
    (hbody : BodyH hs he) (hb : ∀ k ∈ blocks, Block false k) :
    ∃ toks, convert cfg (.elem qd ad (pre ++ [.elem qb ab [.elem qt at_ blocks]])) = .ok toks ∧
      (nonWs (visMainL blocks ++ visNotesL blocks)).Sublist (nonWs (textOf toks)) := by
  obtain ⟨toks, h1, h2⟩ := complete_partial cfg qd ad pre qb ab qt at_ blocks hs he hdd hpre hdb hdt hbody hb
  exact ⟨toks, h1, h2.filter _⟩

/-- a document of the content model is `Supported`: `total_balanced_partial` applies to it -/
theorem supported_of_content_model (qd : Str) (ad : Attrs) (pre : List Node) (qb : Str) (ab : Attrs) (qt : Str) (at_ : Attrs)
    (blocks : List Node) (hs he : HName)
    (hdd : dispatch qd = (some .s_office_document_content, some .e_office_document_content))
    (hpre : HeadL [(qd, ad)] pre) (hdb : dispatch qb = (none, none)) (hdt : dispatch qt = (some hs, some he))
    (hbody : BodyH hs he) (hb : ∀ k ∈ blocks, Block false k) :
    Supported (.elem qd ad (pre ++ [.elem qb ab [.elem qt at_ blocks]])) :=
  .mk qd ad pre qb ab qt at_ blocks hs he hdd hpre hdb hdt hbody
    (txtL_of_blocks fun k hk => block_txt (hb k hk)).flow

/-- the hypotheses are satisfiable, and the documents of a71a4f0, ff3c76c, 29b6eef are inside them:
    <h>h</h> (no outline level), <p>a<s/>b<frame><text-box><p>e</p></text-box></frame>g, a foot note</p>, a list -/
example : ∀ k ∈ [Node.elem qH [] [.text [104]],
     .elem qP [] [.text [97], .elem qS [] [], .text [98],
                  .elem qFrame [] [.elem qTextBox [] [.elem qP [] [.text [101]]]], .text [103],
                  .elem qNote [] [.elem qCitation [] [.text [49]], .elem qNoteBody [] [.elem qP [] [.text [102]]]]],
     .elem qList [] [.elem qListItem [] [.elem qP [] [.text [100]]]]], Block false k := by
  have one {p : Node → Prop} {n : Node} (h : p n) : ∀ k ∈ [n], p k := List.forall_mem_singleton.2 h
  have para (b : Bool) (x : Cp) : Block b (.elem qP [] [.text [x]]) := .p _ _ _ (one (.text _ _))
  refine List.forall_mem_cons.2 ⟨.h _ _ _ 1 rfl (one (.text _ _)), List.forall_mem_cons.2 ⟨.p _ _ _ fun k hk => ?_,
    one (.list _ _ _ (one (.listItem _ _ _ (one (para _ _)))))⟩⟩
  simp only [List.mem_cons, List.not_mem_nil, or_false] at hk
  rcases hk with rfl | rfl | rfl | rfl | rfl | rfl
  · exact .text _ _
  · exact .s _ _ 1 (by decide)
  · exact .text _ _
  · exact .frame _ _ _ (one (.textBox _ _ _ (one (para _ _))))
  · exact .text _ _
  · exact .note [] [] [] [[49]] _ (one (para _ _))

/-! ## test vectors: the documents of the findings on the model (the real code is checked by harness/c18.py on every run) -/

/-- a71a4f0: a heading without text:outline-level is a level-1 heading -/
example : (convert ⟨false, []⟩ (textDoc [.elem qH [] [.text [97]]])).toOption.map textOf = some [97] := by decide +kernel

/-- 29b6eef: `<p>a<frame><text-box><p>b</p></text-box></frame>c</p>` keeps the "a" -/
example : (convert ⟨false, []⟩ (textDoc [.elem qP [] [.text [97],
    .elem qFrame [] [.elem qTextBox [] [.elem qP [] [.text [98]]]], .text [99]]])).toOption.map textOf = some [97, 98, 99] := by decide +kernel

/-! ### e7e9e0f: paragraph text directly in front of a drawing shape (class `x-pending-before-shape` of harness/c18gen.py) -/

/-- **C18 (XHTML, class x-pending-before-shape)**: `<p>a<custom-shape><p>b</p></custom-shape>c</p>` keeps the "a" —
    s_custom_shape writes the pending data before it opens its <div> (corpus document `custom-shape-in-paragraph`; for
    any content: `txt_custom_shape`, in the class `Txt` of `complete_txt`) -/
theorem custom_shape_keeps_pending_text : (convert ⟨false, []⟩ (textDoc [.elem qP [] [.text [97],
    .elem qCustomShape [] [.elem qP [] [.text [98]]], .text [99]]])).toOption.map textOf = some [97, 98, 99] := by decide +kernel

/-- **C18 (XHTML, class x-pending-before-shape)**: the same for draw:rect / draw:ellipse (handler `s_draw_shape`, corpus
    document `shape-in-paragraph`; for any content: `txt_rect`, `txt_ellipse`, in the class `Txt` of `complete_txt`) -/
theorem shape_keeps_pending_text : ∀ q ∈ [qRect, qEllipse], (convert ⟨false, []⟩ (textDoc [.elem qP [] [.text [97],
    .elem q [] [.elem qP [] [.text [98]]], .text [99]]])).toOption.map textOf = some [97, 98, 99] := by
  decide +kernel

-- the three test vectors below compare `Except` values; the kernel evaluates the comparison
deriving instance DecidableEq for Except

/-- ff3c76c: `<p>a<s/>b</p>` is written a, blank, b -/
example : convert ⟨false, []⟩ (textDoc [.elem qP [] [.text [97], .elem qS [] [], .text [98]]]) =
    .ok (docStart ++ [.ctag nHead true, .otag nBody [] true, .otag nP [] false, .text [97], .raw .nbsp, .text [98], .ctag nP true,
                      .ctag nBody true, .ctag nHtml true]) := by decide +kernel

/-! ### MoinMoin -/

/-- styles.xml without any style, as minidom shows it -/
def moinStyles : Node := .elem [] [] []
/-- content.xml with the given children of office:text, as minidom shows it -/
def moinContent (blocks : List Node) : Node := .elem [] [] [.elem Moin.tBody [] [.elem qText [] blocks]]

/-- 2b96491: an indented content.xml — white space between office:body, office:text, paragraphs, list items,
    table rows and cells — is converted like the unindented one (in general: `Moin.topStr_elems`, `itemsStr_elems`,
    `subitemsStr_elems`, `rowsStr_elems`, `cellsStr_elems`: the loops only see the element children) -/
example :
    Moin.toString moinStyles (.elem [] [] [.text [10], .elem Moin.tBody [] [.text [10, 32], .elem qText [] [.text [10, 32, 32],
        .elem qP [] [.text [90]], .text [10, 32, 32],
        .elem qList [] [.text [10], .elem qListItem [] [.text [10], .elem qP [] [.text [89]], .text [10]], .text [10]], .text [10],
        .elem qTable [] [.text [10], .elem qRow [] [.text [10], .elem qCell [] [.elem qP [] [.text [88]]], .text [10]], .text [10]],
        .text [10, 32]], .text [10]]]) =
    Moin.toString moinStyles (moinContent [.elem qP [] [.text [90]],
        .elem qList [] [.elem qListItem [] [.elem qP [] [.text [89]]]],
        .elem qTable [] [.elem qRow [] [.elem qCell [] [.elem qP [] [.text [88]]]]]]) := by
  decide +kernel

/-- 41ddec8: both paragraphs of a foot note are converted -/
example : (Moin.toString moinStyles (moinContent [.elem qP [] [.text [97], .elem qNote []
    [.elem qCitation [] [.text [49]], .elem qNoteBody [] [.elem qP [] [.text [98]], .elem qP [] [.text [99]]]]]])).toOption.map
      (fun out => (98 ∈ out ∧ 99 ∈ out : Bool)) = some true := by decide +kernel

/-- bc7fa87: a table inside a table cell, a section inside a section -/
example : (Moin.toString moinStyles (moinContent [.elem qTable [] [.elem qRow [] [.elem qCell []
    [.elem qTable [] [.elem qRow [] [.elem qCell [] [.elem qP [] [.text [90]]]]]]]]])).toOption.map (fun out => decide (90 ∈ out)) =
      some true := by decide +kernel
example : (Moin.toString moinStyles (moinContent [.elem qSection [] [.elem qSection [] [.elem qP [] [.text [90]]]]])).toOption.map
    (fun out => decide (90 ∈ out)) = some true := by decide +kernel

/-- c4d21da: `<p>a<span> </span>b</p>` keeps the blank -/
example : Moin.toString moinStyles (moinContent [.elem qP [] [.text [97], .elem qSpan [] [.text [32]], .text [98]]]) =
    .ok [97, 32, 98, 10] := by decide +kernel

/-- the hypotheses of `Moin.moin_total_complete_partial` are satisfiable: `<p>a<span>b</span><s/></p><h outline-level="2">c</h>` -/
example : ∃ out, Moin.toString moinStyles (moinContent
      [.elem qP [] [.text [97], .elem qSpan [] [.text [98]], .elem qS [] []], .elem qH [(Moin.kOutline, [50])] [.text [99]]]) = .ok out ∧
    (Moin.nonWs [97, 98, 99]).Sublist (Moin.nonWs out) := by
  have nb : ∀ q : Str, q = qSpan ∨ q = qS → Moin.notBlock q := by
    intro q h; unfold Moin.notBlock; rcases h with rfl | rfl <;> decide +kernel
  have hp : Moin.MPara (.elem qP [] [.text [97], .elem qSpan [] [.text [98]], .elem qS [] []]) :=
    .mk _ _ _ (Or.inl rfl) (Or.inl rfl)
      (.cons _ _ (.text _) (.cons _ _ (.markup qSpan [] _ (nb _ (Or.inl rfl)) (by decide +kernel) (.cons _ _ (.text _) .nil))
        (.cons _ _ (.leaf qS [] [] .text_s (nb _ (Or.inr rfl)) (by decide +kernel) rfl) .nil)))
  have hh : Moin.MPara (.elem qH [(Moin.kOutline, [50])] [.text [99]]) :=
    .mk _ _ _ (Or.inr rfl) (Or.inr ⟨2, by decide⟩) (.cons _ _ (.text _) .nil)
  have e : Moin.pvisL [Node.elem qP [] [.text [97], .elem qSpan [] [.text [98]], .elem qS [] []],
      Node.elem qH [(Moin.kOutline, [50])] [.text [99]]] = [97, 98, 99] := by decide +kernel
  rw [← e]
  exact Moin.moin_total_complete_partial moinStyles (moinContent _) {} (.elem Moin.tBody [] [.elem qText [] _]) []
    (.elem qText [] _) [] _ rfl rfl rfl rfl (List.forall_mem_cons.2 ⟨hp, List.forall_mem_singleton.2 hh⟩)

end OdfModel.Props.C18
