/-
  Property C16 / C03 — the name `addObject` gives an object (model `OdfModel.Pkg.objectName`, `setFolder`).
  For every holder and every requested name the name chosen is the folder, read below the holder, of no object below it at
  any depth (`objectName_free`; as folders: `folder_fresh`), and `_setFolder` keeps everything a moved object had below the
  holder's folder, not only the last component (`setFolderKids_folder`).  Then evaluated histories of the input classes of
  harness/c16.py `gen_numbered_hist`, `gen_paths` and harness/c03.py `gen_numbered` — explicit numbered names followed by
  default names (`descending_then_default`), path names given to a holder that is attached afterwards
  (`path_name_inside_out`), a path name equal to a nested folder (`path_name_equals_nested_folder_refused`) — and the
  refutation of "no two documents in one folder" for arbitrary histories (`not_noTwoDocumentsInOneFolder`, KF-C16-10).
-/
import OdfModel.Pkg
import OdfModel.Props.C16
namespace OdfModel.Props.C16Names
open OdfModel OdfModel.Pkg OdfModel.Props.C16

/-- the names in use below a holder stored in `fo`: `f[len(self.folder)+1:]` for the folder `f` of EVERY object below the
    holder, at any depth (`_foldersBelow`).  The same function as `Pkg.usedBelow`, which `objectName` consults: the two
    unfold to one term -/
def usedNames (fo : Str) (kids : List Doc) : List Str := (objectsK 0 kids).map (fun q => q.2.folder.drop (fo.length + 1))

/-- **C16/C03 (`objectName_free`)**: whatever name `addObject` settles on (default or explicit, leading "/" or
    not, a path or not), it is not the folder — read below the holder — of any object below the holder, at any depth:
    for every holder, every tree of objects in every order, every requested name. (The other outcome is ValueError:
    nothing is attached.) -/
theorem objectName_free (fo : Str) (kids : List Doc) (name : Option Str) (n : Str)
    (h : objectName fo kids name = some n) : n ∉ usedNames fo kids := by
  -- default or explicit name alike, `objectName` ends in `if used.contains n then none else some n`
  obtain ⟨hc, hn⟩ := Option.ite_none_left_eq_some.mp h
  cases hn
  exact fun hm => hc (List.contains_iff_mem.mpr hm)

/-- the direct objects only: the name is not the name of an object the parent already holds -/
theorem objectName_free_direct (fo : Str) (kids : List Doc) (name : Option Str) (n : Str)
    (h : objectName fo kids name = some n) : n ∉ kids.map (fun c => c.folder.drop (fo.length + 1)) := by
  intro hn
  obtain ⟨c, hc, rfl⟩ := List.mem_map.mp hn
  exact objectName_free fo kids name _ h (List.mem_map.mpr ⟨(stor 0 c, c), mem_objectsK_of_mem hc, rfl⟩)

/-- the folder a new object gets is the folder of no object of the holder's tree, direct or nested at any depth: such an
    object would have the new name as its name below the holder -/
theorem folder_fresh (fo : Str) (kids : List Doc) (name : Option Str) (n : Str) (h : objectName fo kids name = some n) :
    fo ++ sSlash ++ n ∉ (objectsK 0 kids).map (fun q => q.2.folder) := by
  intro hm
  obtain ⟨q, hq, he⟩ := List.mem_map.mp hm
  refine objectName_free fo kids name n h (List.mem_map.mpr ⟨q, hq, ?_⟩)
  rw [he, List.drop_left' (by simp [sSlash])]

/-- **C16 (`attach_folder_fresh`)**: the folder a new object gets is not the folder of ANY object of the holder's tree —
    direct or nested at any depth (`q ∈ objectsK 0 kids`), e.g. an explicit path name equal to the folder of a nested
    object is refused (`path_name_equals_nested_folder_refused`).  An instance of `folder_fresh`, which does without `hf`. -/
theorem attach_folder_fresh (fo : Str) (kids : List Doc) (name : Option Str) (n : Str)
    (h : objectName fo kids name = some n) (q : Str × Doc) (hq : q ∈ objectsK 0 kids)
    (hf : q.2.folder = fo ++ sSlash ++ q.2.folder.drop (fo.length + 1)) : q.2.folder ≠ fo ++ sSlash ++ n :=
  fun he => folder_fresh fo kids name n h (List.mem_map.mpr ⟨q, hq, he⟩)

theorem attach_folder_fresh_tree (fo : Str) (kids : List Doc) (name : Option Str) (n : Str)
    (h : objectName fo kids name = some n) (hbelow : ∀ q ∈ objectsK 0 kids, (fo ++ sSlash) <+: q.2.folder) :
    fo ++ sSlash ++ n ∉ (objectsK 0 kids).map (fun q => q.2.folder) :=
  folder_fresh fo kids name n h

/-- `attach_folder_fresh` for the direct objects of the holder -/
theorem attach_folder_fresh_direct (fo : Str) (kids : List Doc) (name : Option Str) (n : Str)
    (h : objectName fo kids name = some n) (c : Doc) (hc : c ∈ kids)
    (hf : c.folder = fo ++ sSlash ++ c.folder.drop (fo.length + 1)) : c.folder ≠ fo ++ sSlash ++ n :=
  attach_folder_fresh fo kids name n h (stor 0 c, c) (mem_objectsK_of_mem hc) hf

/-- `_setFolder`: every object of the moved document keeps the whole of its folder below the document's old
    folder (`c.folder[len(self.folder):]`), put behind the new folder -/
theorem setFolderKids_folder (folder : Str) (oldLen : Nat) :
    ∀ (ds : List Doc), (setFolderKids folder oldLen ds).map (·.folder) = ds.map (fun c => folder ++ c.folder.drop oldLen) := by
  intro ds
  induction ds with
  | nil => simp [setFolderKids]
  | cons c cs ih =>
    obtain ⟨id, mt, hs, pics, th, ex, fo, kids⟩ := c
    simp [setFolderKids, setFolder, ih]

/-- "Object 4" then "Object 3" (explicit, descending, nothing at 1 and 2), then two default names: the default
    numbering starts at 3, steps over 3 AND 4 and hands out "Object 5", then "Object 6"; asking for "Object 3" again
    is refused; every reference resolves, no member name occurs twice -/
theorem descending_then_default :
    let h0 : Hist := ⟨leaf 0 mtA, [leaf 1 mtB, leaf 2 mtA, leaf 3 mtB, leaf 4 mtA, leaf 5 mtB], []⟩
    let ops : List Op := [⟨0, 1, some (sObjectSp ++ [52])⟩, ⟨0, 2, some (sObjectSp ++ [51])⟩, ⟨0, 3, none⟩,
                          ⟨0, 5, some (sObjectSp ++ [51])⟩, ⟨0, 4, none⟩]
    (run h0 ops).map (fun h => (h.refs.map (fun x => (x.1, x.2.2)), allResolve h, decide (((save h.root).zip.map (·.name)).Nodup)))
      = some ([(1, [46, 47] ++ sObjectSp ++ [52]), (2, [46, 47] ++ sObjectSp ++ [51]), (3, [46, 47] ++ sObjectSp ++ [53]),
               (4, [46, 47] ++ sObjectSp ++ [54])], true, true) := by
  decide +kernel

/-- "Charts/Sales", "Tables/Sales" -/
def nChartsSales : Str := [67, 104, 97, 114, 116, 115, 47, 83, 97, 108, 101, 115]
def nTablesSales : Str := [84, 97, 98, 108, 101, 115, 47, 83, 97, 108, 101, 115]

/-- inside-out with path names: the holder 1 gets "Charts/Sales" and "Tables/Sales" (same last component), then is
    attached to the saved document: the two objects are stored in "Object 1/Charts/Sales/" and
    "Object 1/Tables/Sales/" (the references handed out, read below the holder's folder "Object 1/"), no member
    name occurs twice -/
theorem path_name_inside_out :
    let h0 : Hist := ⟨leaf 0 mtA, [leaf 1 mtB, leaf 2 mtA, leaf 3 mtB], []⟩
    let ops : List Op := [⟨1, 2, some nChartsSales⟩, ⟨1, 3, some nTablesSales⟩, ⟨0, 1, none⟩]
    (run h0 ops).map (fun h => (h.refs.map (fun x => (x.1, x.2.2)),
        hasMember (save h.root) (objPrefix 1 ++ nChartsSales ++ sSlash ++ sContent),
        hasMember (save h.root) (objPrefix 1 ++ nTablesSales ++ sSlash ++ sContent),
        hasMember (save h.root) (objPrefix 1 ++ [83, 97, 108, 101, 115] ++ sSlash ++ sContent),
        decide (((save h.root).zip.map (·.name)).Nodup)))
      = some ([(2, [46, 47] ++ nChartsSales), (3, [46, 47] ++ nTablesSales), (1, [46, 47] ++ sObjectSp ++ [49])],
              true, true, false, true) := by
  decide +kernel

/-- "Object 1/Object 1" -/
def nObj1Obj1 : Str := sObjectSp ++ [49] ++ sSlash ++ sObjectSp ++ [49]

/-- two documents of the tree with one `folder` attribute (`save` writes both to that folder) -/
def sharedFolder (d : Doc) : Bool := decide (¬ ((objectsK 0 d.children).map (fun q => q.2.folder)).Nodup)

/-- **KF-C16-3 (`sig=path-name-equals-folder-of-nested-object`) on odfpy as of f40c392**: 1 ← 3 ("./Object 1"), 0 ← 1
    ("./Object 1": 3 now lives in "Object 1/Object 1/"), then 0 ← 2 under the explicit name "Object 1/Object 1": refused
    (ValueError, nothing attached — the name is the folder of an object nested in a sibling); the same call under "Object 1/x"
    is accepted; no folder holds two documents, no member name occurs twice -/
theorem path_name_equals_nested_folder_refused :
    let h0 : Hist := ⟨leaf 0 mtA, [leaf 1 mtB, leaf 2 mtA, leaf 3 mtB], []⟩
    let ops : List Op := [⟨1, 3, none⟩, ⟨0, 1, none⟩, ⟨0, 2, some nObj1Obj1⟩]
    (match run h0 ops.dropLast with
      | some h => (match step h ⟨0, 2, some nObj1Obj1⟩ with | .valueError => true | _ => false)
      | none => false) = true ∧
    (run h0 (ops ++ [⟨0, 2, some (sObjectSp ++ [49] ++ sSlash ++ [120])⟩])).map (fun h => (h.refs.map (fun x => (x.1, x.2.2)), sharedFolder h.root,
        decide (((save h.root).zip.map (·.name)).Nodup)))
      = some ([(3, [46, 47] ++ sObjectSp ++ [49]), (1, [46, 47] ++ sObjectSp ++ [49]),
               (2, [46, 47] ++ sObjectSp ++ [49] ++ sSlash ++ [120])], false, true) := by
  decide +kernel

/-- the full-strength statement about attach histories: no two documents below the saved document share a folder -/
def NoTwoDocumentsInOneFolder : Prop :=
  ∀ (h0 : Hist) (ops : List Op) (h : Hist), Inv h0 → h0.root.children = [] → (∀ d ∈ h0.pool, d.children = [] ∧ d.folder = []) →
    run h0 ops = some h → sharedFolder h.root = false

/-- **finding KF-C16-10** (`sig=object-attached-into-folder-of-path-named-object`): a
    holder compares a name with the folders BELOW ITSELF only.  0 ← 1 ("./Object 1"), 0 ← 2 under "Object 1/Object 1"
    (accepted: 1 holds nothing yet), then 1 ← 3 gets the default name "Object 1" (1 holds nothing, it cannot see 2):
    2 and 3 both have the folder "/Object 1/Object 1", every parent was attached first, `save` writes member names twice. -/
theorem finding_later_attach_shares_folder :
    let h0 : Hist := ⟨leaf 0 mtA, [leaf 1 mtB, leaf 2 mtA, leaf 3 mtB], []⟩
    let ops : List Op := [⟨0, 1, none⟩, ⟨0, 2, some nObj1Obj1⟩, ⟨1, 3, none⟩]
    (run h0 ops).map (fun h => (h.refs.map (fun x => (x.1, x.2.2)), parentsFirst h0 ops, sharedFolder h.root,
        decide (((save h.root).zip.map (·.name)).Nodup)))
      = some ([(1, [46, 47] ++ sObjectSp ++ [49]), (2, [46, 47] ++ nObj1Obj1), (3, [46, 47] ++ nObj1Obj1)], true, true, false) := by
  decide +kernel

theorem not_noTwoDocumentsInOneFolder : ¬ NoTwoDocumentsInOneFolder := by
  intro hall
  obtain ⟨hh, hr, e⟩ := Option.map_eq_some_iff.mp finding_later_attach_shares_folder
  have := hall _ _ hh (inv_fresh 0 mtA false [] none [] _) rfl (by decide) hr
  simp only [Prod.mk.injEq] at e
  cases this.symm.trans e.2.2.1

end OdfModel.Props.C16Names
