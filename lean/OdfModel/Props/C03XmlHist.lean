/-
  C03 × C14 × XML layer: the manifest theorem of Props/C03Xml.lean for EVERY process history.  `save` creates
  `manifest.Manifest()` before it writes anything, which registers the manifest namespace in the process-wide table;
  whatever the process did before (a history of `get_nsprefix` calls, C14), the table the manifest is written under is
  admissible (`C14.admissible_reachable`) and knows the manifest namespace.
-/
import OdfModel.Props.C14
import OdfModel.Props.C03Xml
namespace OdfModel.Props.C03XmlHist
open OdfModel OdfModel.Xml OdfModel.Spec OdfModel.Ns OdfModel.Props.C03Xml
open OdfModel.Pkg (ME)

theorem manifestns_strOK : StrOK MANIFESTNS := by
  unfold StrOK MANIFESTNS; decide
theorem manifestns_clean : MANIFESTNS.map hu = MANIFESTNS := map_hu_printable (by decide)

/-- **C03 (truthful manifest bytes, after any process history)**: let the process have registered any namespaces
    `hist` (well-formed strings without filtered characters) before `save` creates the manifest element.  Then a reader
    of the emitted `META-INF/manifest.xml` finds exactly the model's entries, in order. -/
theorem manifest_xml_after_any_history (hist : List Str) (es : List ME)
    (hh : ∀ ns ∈ hist, StrOK ns ∧ ns.map hu = ns) (hs : EntriesOK es) :
    readManifest (manifestXml (run initial (hist ++ [MANIFESTNS])).seen es) = some (es.map listed) := by
  obtain ⟨ht, hcl⟩ := C14.admissible_reachable (hist ++ [MANIFESTNS])
    (List.forall_mem_append.mpr ⟨hh, List.forall_mem_singleton.mpr ⟨manifestns_strOK, manifestns_clean⟩⟩)
  obtain ⟨p, hp⟩ := Option.isSome_iff_exists.mp (lookupNs_isSome.mpr
    ((mem_seen_keys_run initial (hist ++ [MANIFESTNS]) MANIFESTNS).mpr (.inr ⟨by simp, by decide⟩)))
  exact manifest_xml_lists_entries _ p es ht hcl hp hs

end OdfModel.Props.C03XmlHist
