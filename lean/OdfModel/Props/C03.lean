/-
  Property C03 — a saved package is a conforming ODF zip container with a truthful manifest.
  Theorems about `OdfModel.Pkg.save` (model of `__zipwrite`, `_saveXmlObjects`, `_savePictures`, `_allExtras`) and
  `OdfModel.Pkg.load`, for object trees of any nesting depth; tied to odf/opendocument.py by the correspondence run of
  harness/c03.py.  odfpy as of d51bb64: every sub-document is stored under its `folder` attribute.

  What the three traversals of `save` write is, by `Pkg.Walk.eq`, what they write for every pair of `Pkg.objects`, so a
  property of the output is proved emitter by emitter and carried over by `Out.concat_ind` / `Out.sub_concat`.  Where the
  statement itself is a recursion over the tree — the right-hand sides `objFolderEntries`, `treeExtraFolderEntries`, the
  hypotheses `treeOK`, `plainHrefs`, `wf` — the proof goes along that recursion instead (`folderEntries_saveXmlKids`,
  `folderEntries_saveExtras`, `slashOK_savePics`, `slashOK_saveExtras`, `paths_perm`).  That no path and no name occurs
  twice needs the decidable hypothesis `DocOK`; every document `load` builds has it (`load_docOK`, over the lemmas about
  `load` at the end of Pkg.lean).
-/
import OdfModel.Pkg
namespace OdfModel.Props.C03
open OdfModel OdfModel.Pkg

/-- member names of the archive, in order -/
def names (o : Out) : List Str := o.zip.map (·.name)
/-- the manifest entries that describe a file (not tagged as folder entry), in order -/
def fileEntries (o : Out) : List ME := o.man.filter (fun e => !e.isFolder)
/-- the manifest entries that describe a folder, in order -/
def folderEntries (o : Out) : List ME := o.man.filter (fun e => e.isFolder)
def filePaths (o : Out) : List Str := (fileEntries o).map (·.path)
/-- all manifest paths, in order -/
def paths (o : Out) : List Str := o.man.map (·.path)

@[simp] theorem names_append (a b : Out) : names (a ++ b) = names a ++ names b := by simp [names]
@[simp] theorem filePaths_append (a b : Out) : filePaths (a ++ b) = filePaths a ++ filePaths b := by
  simp [filePaths, fileEntries]
@[simp] theorem folderEntries_append (a b : Out) :
    folderEntries (a ++ b) = folderEntries a ++ folderEntries b := by simp [folderEntries]
@[simp] theorem paths_append (a b : Out) : paths (a ++ b) = paths a ++ paths b := by simp [paths]
@[simp] theorem names_empty : names Out.empty = [] := rfl
@[simp] theorem filePaths_empty : filePaths Out.empty = [] := rfl
@[simp] theorem folderEntries_empty : folderEntries Out.empty = [] := rfl
@[simp] theorem paths_empty : paths Out.empty = [] := rfl
@[simp] theorem names_emFile (n : Str) (m : Method) (c : Content) (t : Str) : names (emFile n m c t) = [n] := rfl
@[simp] theorem filePaths_emFile (n : Str) (m : Method) (c : Content) (t : Str) :
    filePaths (emFile n m c t) = [n] := rfl
@[simp] theorem paths_emFile (n : Str) (m : Method) (c : Content) (t : Str) : paths (emFile n m c t) = [n] := rfl
@[simp] theorem folderEntries_emFile (n : Str) (m : Method) (c : Content) (t : Str) :
    folderEntries (emFile n m c t) = [] := rfl
@[simp] theorem names_emM (e : ME) : names (emM e) = [] := rfl
@[simp] theorem paths_emM (e : ME) : paths (emM e) = [e.path] := rfl
@[simp] theorem names_emZ (e : ZE) : names (emZ e) = [e.name] := rfl
@[simp] theorem filePaths_emZ (e : ZE) : filePaths (emZ e) = [] := rfl
@[simp] theorem paths_emZ (e : ZE) : paths (emZ e) = [] := rfl
@[simp] theorem folderEntries_emZ (e : ZE) : folderEntries (emZ e) = [] := rfl
@[simp] theorem filePaths_emM_folder (p t : Str) : filePaths (emM ⟨p, t, true⟩) = [] := rfl
@[simp] theorem folderEntries_emM_folder (p t : Str) :
    folderEntries (emM ⟨p, t, true⟩) = [⟨p, t, true⟩] := rfl
@[simp] theorem names_xmlPart (F : Str) (k : PartKind) (n : Str) (i : Nat) : names (xmlPart F k n i) = [F ++ n] := rfl
@[simp] theorem filePaths_xmlPart (F : Str) (k : PartKind) (n : Str) (i : Nat) :
    filePaths (xmlPart F k n i) = [F ++ n] := rfl
@[simp] theorem paths_xmlPart (F : Str) (k : PartKind) (n : Str) (i : Nat) : paths (xmlPart F k n i) = [F ++ n] := rfl
@[simp] theorem folderEntries_xmlPart (F : Str) (k : PartKind) (n : Str) (i : Nat) :
    folderEntries (xmlPart F k n i) = [] := rfl

/-- **C03 (first entry)**: the first zip entry is `mimetype`, stored, without extra field, and its
    bytes are the UTF-8 encoding of the document's media type. -/
theorem mimetype_first (d : Doc) :
    (save d).zip.head? = some ⟨sMimetype, .stored, [], .bytes (utf8 d.mimetype)⟩ := by
  simp [save]

/-- **C03 (required members)**: content.xml, styles.xml, meta.xml and META-INF/manifest.xml are
    members of every saved package. -/
theorem required_members (d : Doc) :
    sContent ∈ names (save d) ∧ sStyles ∈ names (save d) ∧ sMeta ∈ names (save d)
      ∧ sManifestPath ∈ names (save d) := by
  simp [save, saveXml_own, ownXml, ownKinds, partPath, Out.concat, Out.concat_append]

/-! ### the manifest lists exactly the files of the archive -/

/-- member by member a file entry of the same name, in the same order -/
def Balanced (o : Out) : Prop := names o = filePaths o

theorem Balanced.append {a b : Out} (ha : Balanced a) (hb : Balanced b) : Balanced (a ++ b) := by
  unfold Balanced at *
  rw [names_append, filePaths_append, ha, hb]

theorem balanced_empty : Balanced Out.empty := rfl

theorem balanced_ownXml (top : Bool) (F : Str) (d : Doc) : Balanced (ownXml top F d) :=
  Balanced.append rfl (Out.concat_ind balanced_empty Balanced.append fun _ _ => rfl)

theorem balanced_saveXmlKids (L : Nat) (ds : List Doc) :
    names (saveXmlKids L ds) = filePaths (saveXmlKids L ds) := by
  rw [(walk_saveXml L).eqK]
  exact Out.concat_ind balanced_empty Balanced.append fun p _ => balanced_ownXml false p.1 p.2

theorem balanced_picsOut (F : Str) (ps : List Pic) : Balanced (picsOut F ps) := by
  rw [picsOut_eq]
  exact Out.concat_ind balanced_empty Balanced.append fun _ _ => rfl

theorem balanced_savePicsKids (L : Nat) (ds : List Doc) :
    names (savePicsKids L ds) = filePaths (savePicsKids L ds) := by
  rw [(walk_savePics L).eqK]
  exact Out.concat_ind balanced_empty Balanced.append fun p _ => balanced_picsOut p.1 _

theorem balanced_thumbOut (t : Option Thumb) : Balanced (thumbOut t) := by
  cases t <;> rfl

theorem balanced_extrasOut (F : Str) (es : List Extra) : Balanced (extrasOut F es) := by
  rw [extrasOut_eq]
  refine Out.concat_ind balanced_empty Balanced.append fun e _ => ?_
  unfold extraOut
  split
  · rfl
  · cases e.content <;> rfl

theorem balanced_saveExtrasKids (L : Nat) (ds : List Doc) :
    names (saveExtrasKids L ds) = filePaths (saveExtrasKids L ds) := by
  rw [(walk_saveExtras L).eqK]
  exact Out.concat_ind balanced_empty Balanced.append fun p _ => balanced_extrasOut p.1 _

/-- **C03 (manifest exactness, ordered form)**: the member names of the archive are `mimetype`, then
    exactly the paths of the manifest's file entries *in the same order*, then `META-INF/manifest.xml`.
    No omission, no extra, each file under the path where its bytes are. -/
theorem manifest_exact_ordered (d : Doc) :
    names (save d) = sMimetype :: (filePaths (save d) ++ [sManifestPath]) := by
  have hx : Balanced (saveXml d.folder.length true [] d) := by
    rw [saveXml_own]; exact (balanced_ownXml true [] d).append (balanced_saveXmlKids _ _)
  have hp : Balanced (savePics d.folder.length [] d) := by
    rw [(walk_savePics _).doc]; exact (balanced_picsOut _ _).append (balanced_savePicsKids _ _)
  have he : Balanced (saveExtras d.folder.length [] d) := by
    rw [(walk_saveExtras _).doc]; exact (balanced_extrasOut _ _).append (balanced_saveExtrasKids _ _)
  have ht := balanced_thumbOut d.thumbnail
  unfold Balanced at hx hp he ht
  simp [save, hx, hp, ht, he]

/-- **C03 (manifest exactness)**: the paths of the manifest's file entries are a permutation of the
    archive's member names minus one `mimetype` and one `META-INF/manifest.xml` (multiset
    difference, so a duplicated name could not hide). -/
theorem manifest_exact (d : Doc) :
    (filePaths (save d)).Perm (((names (save d)).erase sMimetype).erase sManifestPath) := by
  -- moving the manifest member to the front and erasing it there
  have h := (List.perm_append_comm (l₁ := filePaths (save d)) (l₂ := [sManifestPath])).erase sManifestPath
  rw [List.singleton_append, List.erase_cons_head] at h
  rw [manifest_exact_ordered, List.erase_cons_head]
  exact h.symm

/-! ### which manifest entries are folder entries -/

mutual
/-- the folder entries `_saveXmlObjects` produces for the sub-documents of a document -/
def objFolderEntries (L : Nat) : List Doc → List ME
  | [] => []
  | c :: cs => objFolderEntries1 L (stor L c) c ++ objFolderEntries L cs
def objFolderEntries1 (L : Nat) (F : Str) : Doc → List ME
  | ⟨_, mt, _, _, _, _, _, kids⟩ => ⟨F, mt, true⟩ :: objFolderEntries L kids
end

def thumbFolderEntries : Option Thumb → List ME
  | none => []
  | some _ => [⟨sThumbDir, [], true⟩]

/-- the extras of one document that are written without a member -/
def extraFolderEntries (F : Str) (es : List Extra) : List ME :=
  (es.filter (fun e => e.filename ≠ sDocSig ∧ e.content.isNone)).map (fun e => ⟨F ++ e.filename, e.mediatype, true⟩)

mutual
/-- `extraFolderEntries` of a document and all its sub-documents, in `_allExtras` order -/
def treeExtraFolderEntries (L : Nat) (F : Str) : Doc → List ME
  | ⟨_, _, _, _, _, ex, _, kids⟩ => extraFolderEntries F ex ++ treeExtraFolderEntriesK L kids
def treeExtraFolderEntriesK (L : Nat) : List Doc → List ME
  | [] => []
  | c :: cs => treeExtraFolderEntries L (stor L c) c ++ treeExtraFolderEntriesK L cs
end

theorem noFolderEntries_concat {α : Type} {g : α → Out} {l : List α} (h : ∀ x ∈ l, folderEntries (g x) = []) :
    folderEntries (Out.concat (l.map g)) = [] :=
  Out.concat_ind (P := fun o => folderEntries o = []) rfl (fun ha hb => by rw [folderEntries_append, ha, hb]; rfl) h

theorem folderEntries_ownXml (top : Bool) (F : Str) (d : Doc) :
    folderEntries (ownXml top F d) = [⟨if top then sSlash else F, d.mimetype, true⟩] := by
  rw [ownXml, folderEntries_append, noFolderEntries_concat fun _ _ => rfl]
  rfl

mutual
theorem folderEntries_saveXmlKids (L : Nat) (ds : List Doc) :
    folderEntries (saveXmlKids L ds) = objFolderEntries L ds := by
  cases ds with
  | nil => simp [saveXmlKids, objFolderEntries]
  | cons c cs =>
    simp [saveXmlKids, objFolderEntries, folderEntries_saveXml_sub L (stor L c) c,
      folderEntries_saveXmlKids L cs]
theorem folderEntries_saveXml_sub (L : Nat) (F : Str) (d : Doc) :
    folderEntries (saveXml L false F d) = objFolderEntries1 L F d := by
  cases d with
  | mk id mt hs pics th ex fo kids =>
    simp [saveXml_own, folderEntries_ownXml, objFolderEntries1, folderEntries_saveXmlKids L kids]
end

theorem folderEntries_picsOut (F : Str) (ps : List Pic) : folderEntries (picsOut F ps) = [] := by
  rw [picsOut_eq]
  exact noFolderEntries_concat fun _ _ => rfl

theorem folderEntries_savePicsKids (L : Nat) (ds : List Doc) :
    folderEntries (savePicsKids L ds) = [] := by
  rw [(walk_savePics L).eqK]
  exact noFolderEntries_concat fun p _ => folderEntries_picsOut p.1 _

/-- the extras that `save` writes -/
def liveExtras (es : List Extra) : List Extra := es.filter (fun e => e.filename ≠ sDocSig)

theorem extraOut_man (F : Str) (e : Extra) : (extraOut F e).man =
    if e.filename = sDocSig then [] else [⟨F ++ e.filename, e.mediatype, e.content.isNone⟩] := by
  unfold extraOut
  split
  · rfl
  · cases e.content <;> rfl

theorem extrasOut_man (F : Str) (es : List Extra) : (extrasOut F es).man =
    (liveExtras es).map fun e => ⟨F ++ e.filename, e.mediatype, e.content.isNone⟩ := by
  induction es with
  | nil => rfl
  | cons e es ih =>
    rw [extrasOut, Out.man_append, ih, extraOut_man, liveExtras, liveExtras, List.filter_cons]
    by_cases h : e.filename = sDocSig <;> simp [h]

theorem folderEntries_extrasOut (F : Str) (es : List Extra) :
    folderEntries (extrasOut F es) = extraFolderEntries F es := by
  induction es with
  | nil => rfl
  | cons e es ih =>
    rw [extrasOut, folderEntries_append, ih, folderEntries, extraOut_man, extraFolderEntries, extraFolderEntries, List.filter_cons]
    by_cases h : e.filename = sDocSig <;> cases e.content <;> simp [h]

mutual
theorem folderEntries_saveExtras (L : Nat) (F : Str) (d : Doc) :
    folderEntries (saveExtras L F d) = treeExtraFolderEntries L F d := by
  cases d with
  | mk id mt hs pics th ex fo kids =>
    simp [saveExtras, treeExtraFolderEntries, folderEntries_extrasOut, folderEntries_saveExtrasKids L kids]
theorem folderEntries_saveExtrasKids (L : Nat) (ds : List Doc) :
    folderEntries (saveExtrasKids L ds) = treeExtraFolderEntriesK L ds := by
  cases ds with
  | nil => simp [saveExtrasKids, treeExtraFolderEntriesK]
  | cons c cs =>
    simp [saveExtrasKids, treeExtraFolderEntriesK, folderEntries_saveExtras L (stor L c) c,
      folderEntries_saveExtrasKids L cs]
end

/-- **C03 (which manifest entries are folder entries)**: the entries written without a member are, in
    this order: the root "/" with the document's media type; one entry per embedded object, its path
    the folder the object is stored in (`stor`: its `folder` attribute relative to the saved document,
    plus "/") and its media type the object's; "Thumbnails/" if there is a thumbnail; the extras
    (of the document and of every sub-document, below its folder) whose content is None.  Everything
    else in the manifest is a file entry and is covered by `manifest_exact`. -/
theorem folder_entries (d : Doc) :
    folderEntries (save d) =
      ⟨sSlash, d.mimetype, true⟩ :: objFolderEntries d.folder.length d.children
        ++ thumbFolderEntries d.thumbnail ++ treeExtraFolderEntries d.folder.length [] d := by
  cases d with
  | mk id mt hs pics th ex fo kids =>
    have hth : folderEntries (thumbOut th) = thumbFolderEntries th := by
      cases th <;> simp [thumbOut, thumbFolderEntries]
    simp [save, saveXml_own, folderEntries_ownXml, (walk_savePics _).doc, folderEntries_saveXmlKids, folderEntries_picsOut,
      folderEntries_savePicsKids, folderEntries_saveExtras, hth]

/-! ### every object of the tree, at any depth: media type, parts, pictures, extras -/

/-- the members `_saveXmlObjects` writes for one object stored in folder `G` -/
def ownXmlZ (G : Str) (o : Doc) : List ZE :=
  [⟨G ++ sStyles, .deflated, [], .part .styles o.id⟩, ⟨G ++ sContent, .deflated, [], .part .content o.id⟩]
  ++ (if o.hasSettings then [⟨G ++ sSettings, .deflated, [], .part .settings o.id⟩] else [])
/-- the manifest entries of the members `ownXmlZ` -/
def ownXmlM (G : Str) (o : Doc) : List ME :=
  [⟨G ++ sStyles, sTextXml, false⟩, ⟨G ++ sContent, sTextXml, false⟩]
  ++ (if o.hasSettings then [⟨G ++ sSettings, sTextXml, false⟩] else [])

theorem ownXml_zip (top : Bool) (G : Str) (o : Doc) :
    (ownXml top G o).zip = ownXmlZ G o ++ (if top then [⟨sMeta, .deflated, [], .part .metadata o.id⟩] else []) := by
  unfold ownXml ownXmlZ
  cases o.hasSettings <;> cases top <;> rfl

theorem ownXml_man (top : Bool) (G : Str) (o : Doc) :
    (ownXml top G o).man = ⟨if top then sSlash else G, o.mimetype, true⟩ :: ownXmlM G o
      ++ (if top then [⟨sMeta, sTextXml, false⟩] else []) := by
  unfold ownXml ownXmlM
  cases o.hasSettings <;> cases top <;> rfl

theorem pics_mem {o : Out} {F : Str} {ps : List Pic} (h : (picsOut F ps).Sub o) : ∀ pic ∈ ps,
    (⟨F ++ pic.href, .stored, [], picContent pic.src⟩ : ZE) ∈ o.zip
      ∧ (⟨F ++ pic.href, pic.mediatype, false⟩ : ME) ∈ o.man := by
  intro pic hp
  have hp : (picOut F pic).Sub o := .trans (by rw [picsOut_eq]; exact Out.sub_concat hp) h
  exact ⟨hp.1 List.mem_cons_self, hp.2 List.mem_cons_self⟩

theorem pics_subK (L : Nat) (ds : List Doc) :
    ∀ p ∈ objectsK L ds, ∀ pic ∈ p.2.pictures,
      (⟨p.1 ++ pic.href, .stored, [], picContent pic.src⟩ : ZE) ∈ (savePicsKids L ds).zip
        ∧ (⟨p.1 ++ pic.href, pic.mediatype, false⟩ : ME) ∈ (savePicsKids L ds).man :=
  fun _ hp => pics_mem ((walk_savePics L).subK hp)

/-- what `save` writes for one extra `x` of an object stored in `F`: a manifest entry with its media type
    under `F ++ name` and, if it has content, the member with exactly these bytes -/
def ExtraWritten (o : Out) (F : Str) (x : Extra) : Prop :=
  (∃ fl, (⟨F ++ x.filename, x.mediatype, fl⟩ : ME) ∈ o.man) ∧
  (∀ b, x.content = some b → (⟨F ++ x.filename, .deflated, [], .bytes b⟩ : ZE) ∈ o.zip)

theorem extras_mem {o : Out} {F : Str} {es : List Extra} (h : (extrasOut F es).Sub o) :
    ∀ x ∈ es, x.filename ≠ sDocSig → ExtraWritten o F x := by
  intro x hx hs
  refine ⟨⟨_, h.2 (by rw [extrasOut_man]; exact List.mem_map_of_mem (List.mem_filter.mpr ⟨hx, decide_eq_true hs⟩))⟩,
    fun b hb => ?_⟩
  have hx : (extraOut F x).Sub o := .trans (by rw [extrasOut_eq]; exact Out.sub_concat hx) h
  rw [extraOut, if_neg hs, hb] at hx
  exact hx.1 List.mem_cons_self

theorem extras_subK (L : Nat) (ds : List Doc) :
    ∀ p ∈ objectsK L ds, ∀ x ∈ p.2.extras, x.filename ≠ sDocSig → ExtraWritten (saveExtrasKids L ds) p.1 x :=
  fun _ hp => extras_mem ((walk_saveExtras L).subK hp)

/-- **C03 (media types of the root and of every object folder)**: the manifest entry "/" carries the
    document's media type, and for every embedded object `o`, at any nesting depth, stored in folder `G`,
    the manifest has the folder entry `G` with `o`'s media type. -/
theorem root_and_object_mediatypes (d : Doc) :
    (⟨sSlash, d.mimetype, true⟩ : ME) ∈ (save d).man ∧
    ∀ p ∈ objectsK d.folder.length d.children, (⟨p.1, p.2.mimetype, true⟩ : ME) ∈ (save d).man := by
  have hs := (save_sub d).1
  rw [saveXml_own] at hs
  refine ⟨hs.2 (List.mem_append_left _ ?_), fun p hp => hs.2 (List.mem_append_right _ (((walk_saveXml _).subK hp).2 ?_))⟩
  all_goals rw [ownXml_man]; exact List.mem_cons_self

/-- **C03 (every object's own parts are where its folder is)**: for every object of the tree (the top
    document with folder "" included) styles.xml and content.xml — and settings.xml if it has
    settings — are members under its folder, deflated, holding *that* object's part, and listed as
    text/xml. -/
theorem parts_present (d : Doc) :
    ∀ p ∈ objects d.folder.length [] d,
      (∀ e ∈ ownXmlZ p.1 p.2, e ∈ (save d).zip) ∧ (∀ e ∈ ownXmlM p.1 p.2, e ∈ (save d).man) := by
  intro p hp
  have hs := (save_sub d).1
  rw [saveXml_own] at hs
  obtain ⟨top, h⟩ : ∃ top, (ownXml top p.1 p.2).Sub (save d) := by
    rw [objects_head] at hp
    rcases List.mem_cons.mp hp with rfl | hp
    · exact ⟨true, (Out.Sub.left _ (.refl _)).trans hs⟩
    · exact ⟨false, (Out.Sub.right _ ((walk_saveXml _).subK hp)).trans hs⟩
  exact ⟨fun e he => h.1 (by rw [ownXml_zip]; exact List.mem_append_left _ he),
    fun e he => h.2 (by rw [ownXml_man]; exact List.mem_cons_of_mem _ (List.mem_append_left _ he))⟩

/-- **C03 (pictures)**: every picture registered in any object of the tree is a member under
    `folder ++ href` (the folder being the one that holds the object's content.xml, see
    `parts_present`), stored, with exactly its bytes, and the manifest lists that path with the
    picture's media type. -/
theorem pictures_present (d : Doc) :
    ∀ p ∈ objects d.folder.length [] d, ∀ pic ∈ p.2.pictures,
      (⟨p.1 ++ pic.href, .stored, [], picContent pic.src⟩ : ZE) ∈ (save d).zip
        ∧ (⟨p.1 ++ pic.href, pic.mediatype, false⟩ : ME) ∈ (save d).man :=
  fun _ hp => pics_mem (((walk_savePics _).sub hp).trans (save_sub d).2.1)

/-- **C03 (extra members)**: every extra of any object of the tree (except META-INF/documentsignatures.xml)
    is listed under `folder ++ name` with its media type, and if it has content the member is there,
    deflated, with exactly its bytes. -/
theorem extras_present (d : Doc) :
    ∀ p ∈ objects d.folder.length [] d, ∀ x ∈ p.2.extras, x.filename ≠ sDocSig → ExtraWritten (save d) p.1 x :=
  fun _ hp => extras_mem (((walk_saveExtras _).sub hp).trans (save_sub d).2.2.2)

/-- **C03 (thumbnail)**: a thumbnail is the member "Thumbnails/thumbnail.png", deflated, with exactly its
    bytes, listed with the media type the document carries for it ("" for a thumbnail set through the
    API, the source manifest's media type for a loaded one: odfpy as of f4df084). -/
theorem thumbnail_present (d : Doc) (t : Thumb) (h : d.thumbnail = some t) :
    (⟨sThumb, .deflated, [], .bytes t.content⟩ : ZE) ∈ (save d).zip
      ∧ (⟨sThumb, t.mediatype, false⟩ : ME) ∈ (save d).man := by
  simp [save, h, thumbOut]

/-! ### no manifest path and no member name occurs twice -/

def endsSlash (s : Str) : Bool := s.getLast? == some 47

/-- names the package layer generates itself inside the folder of a document -/
def reservedFor (top : Bool) : List Str :=
  if top then [sStyles, sContent, sSettings, sMeta, sMimetype, sThumb, sManifestPath, sSlash, sThumbDir]
  else [sStyles, sContent, sSettings]

/-- the name of a sub-document inside its parent's folder: `c.folder[len(self.folder)+1:]` -/
def kidName (fo : Str) (c : Doc) : Str := c.folder.drop (fo.length + 1)

/-- the names chosen by the caller / the loaded package inside one document: picture hrefs and extra names -/
def givenNames (pics : List Pic) (ex : List Extra) : List Str :=
  pics.map (·.href) ++ (liveExtras ex).map (·.filename)

/-- well-formedness of one document of the tree (decidable):
    * picture hrefs and extra names are pairwise distinct, not empty, and none is a name the package layer
      generates in that folder (styles.xml, content.xml, settings.xml; for the top document also meta.xml,
      mimetype, Thumbnails/thumbnail.png, META-INF/manifest.xml, "/", "Thumbnails/");
    * an extra has content None exactly if its name ends in "/";
    * the names of the sub-documents are pairwise distinct, not empty and contain no "/", and every
      sub-document's `folder` is this document's `folder` + "/" + its name (what `addObject` and `load` establish);
    * no generated or given name lies inside the folder of a sub-document (begins with its name + "/"). -/
def nodeOK (top : Bool) (pics : List Pic) (ex : List Extra) (fo : Str) (kids : List Doc) : Bool :=
  decide (givenNames pics ex).Nodup && decide (kids.map (kidName fo)).Nodup
  && (givenNames pics ex).all (fun n => !(reservedFor top).contains n && n != [])
  && (liveExtras ex).all (fun e => e.content.isNone == endsSlash e.filename)
  && kids.all (fun c => kidName fo c != [] && !(kidName fo c).contains 47
        && c.folder == fo ++ sSlash ++ kidName fo c
        && (reservedFor top ++ givenNames pics ex).all (fun n => !(kidName fo c ++ sSlash).isPrefixOf n))

theorem nodeOK_iff {top : Bool} {pics : List Pic} {ex : List Extra} {fo : Str} {kids : List Doc} :
    nodeOK top pics ex fo kids = true ↔
      (givenNames pics ex).Nodup ∧ (kids.map (kidName fo)).Nodup
      ∧ (∀ n ∈ givenNames pics ex, n ∉ reservedFor top ∧ n ≠ [])
      ∧ (∀ e ∈ liveExtras ex, (e.content.isNone == endsSlash e.filename) = true)
      ∧ ∀ c ∈ kids, kidName fo c ≠ [] ∧ 47 ∉ kidName fo c ∧ c.folder = fo ++ sSlash ++ kidName fo c
          ∧ ∀ n ∈ reservedFor top ++ givenNames pics ex, ¬ (kidName fo c ++ sSlash) <+: n := by
  simp only [nodeOK, Bool.and_eq_true, decide_eq_true_eq, List.all_eq_true, Bool.not_eq_true', bne_iff_ne, beq_iff_eq,
    ne_eq, and_assoc, ← Bool.not_eq_true, List.contains_iff_mem, List.isPrefixOf_iff_prefix]

mutual
def treeOK (top : Bool) : Doc → Bool
  | ⟨_, _, _, pics, _, ex, fo, kids⟩ => nodeOK top pics ex fo kids && treeOKs kids
def treeOKs : List Doc → Bool
  | [] => true
  | c :: cs => treeOK false c && treeOKs cs
end

/-- **`DocOK d`** — the decidable well-formedness hypothesis of `manifest_nodup` and `names_nodup`: `nodeOK`
    for every document of the tree. -/
def DocOK (d : Doc) : Bool := treeOK true d

/-- the names of the XML parts every document writes into its own folder (`ownKinds` without meta.xml, as names) -/
def xmlOwn (hs : Bool) : List Str := [sStyles, sContent] ++ (if hs then [sSettings] else [])

mutual
/-- every manifest path below the folder of a document, relative to it (without the folder entry itself) -/
def relAll : Doc → List Str
  | ⟨_, _, hs, pics, _, ex, fo, kids⟩ => (xmlOwn hs ++ givenNames pics ex) ++ relKids fo kids
def relKids (fo : Str) : List Doc → List Str
  | [] => []
  | c :: cs => ([] :: relAll c).map (fun x => kidName fo c ++ sSlash ++ x) ++ relKids fo cs
end

/-- where a document is stored, relative to `L = len(folder of the saved document)`: the saved document
    itself in "", every other one in `stor L d` -/
def Placed (L : Nat) (F : Str) (d : Doc) : Prop :=
  (d.folder.length = L ∧ F = []) ∨ (L < d.folder.length ∧ F = stor L d)

theorem stor_child {L : Nat} {F : Str} {d c : Doc} {k : Str} (hp : Placed L F d)
    (hc : c.folder = d.folder ++ sSlash ++ k) : stor L c = F ++ k ++ sSlash ∧ Placed L (stor L c) c := by
  have hlen : c.folder.length = d.folder.length + 1 + k.length := by rw [hc]; simp [sSlash]; omega
  refine ⟨?_, Or.inr ⟨by rcases hp with ⟨h, _⟩ | ⟨h, _⟩ <;> omega, rfl⟩⟩
  rcases hp with ⟨h, rfl⟩ | ⟨h, rfl⟩
  · rw [stor, hc, List.drop_left' (by simp [sSlash, h])]; rfl
  · rw [stor, stor, hc, List.append_assoc, List.drop_append_of_le_length (by omega)]
    simp only [List.append_assoc]

mutual
/-- the `folder` attributes of the tree are consistent: the third clause of `nodeOK` (a sub-document's folder is its
    parent's + "/" + its name) for every document, which is all `paths_perm` needs -/
def wf : Doc → Bool
  | ⟨_, _, _, _, _, _, fo, kids⟩ => kids.all (fun c => c.folder == fo ++ sSlash ++ kidName fo c) && wfs kids
def wfs : List Doc → Bool
  | [] => true
  | c :: cs => wf c && wfs cs
end

mutual
theorem wf_of_treeOK (top : Bool) (d : Doc) (h : treeOK top d = true) : wf d = true := by
  cases d with
  | mk id mt hs pics th ex fo kids =>
    simp only [treeOK, Bool.and_eq_true] at h
    simp only [wf, Bool.and_eq_true, List.all_eq_true, beq_iff_eq]
    obtain ⟨_, _, _, _, hkids⟩ := nodeOK_iff.mp h.1
    exact ⟨fun c hc => (hkids c hc).2.2.1, wfs_of_treeOKs kids h.2⟩
theorem wfs_of_treeOKs (ds : List Doc) (h : treeOKs ds = true) : wfs ds = true := by
  cases ds with
  | nil => rfl
  | cons c cs =>
    simp only [treeOKs, Bool.and_eq_true] at h
    simp only [wfs, Bool.and_eq_true]
    exact ⟨wf_of_treeOK false c h.1, wfs_of_treeOKs cs h.2⟩
end

theorem paths_picsOut (F : Str) (ps : List Pic) : paths (picsOut F ps) = ps.map (fun p => F ++ p.href) := by
  induction ps with
  | nil => simp [picsOut]
  | cons p ps ih => simp [picsOut, picOut, ih]

theorem paths_extrasOut (F : Str) (es : List Extra) :
    paths (extrasOut F es) = (liveExtras es).map (fun e => F ++ e.filename) := by
  rw [paths, extrasOut_man, List.map_map]; rfl

theorem paths_ownXml (top : Bool) (F : Str) (d : Doc) :
    paths (ownXml top F d) = (if top then sSlash else F) :: (xmlOwn d.hasSettings).map (F ++ ·)
      ++ (if top then [sMeta] else []) := by
  rw [paths, ownXml_man, ownXmlM, xmlOwn]
  cases d.hasSettings <;> cases top <;> rfl

mutual
theorem paths_perm (L : Nat) (F : Str) (d : Doc) (hp : Placed L F d) (hw : wf d = true) :
    (paths (saveXml L false F d) ++ paths (savePics L F d) ++ paths (saveExtras L F d)).Perm
      (([] :: relAll d).map (F ++ ·)) := by
  cases d with
  | mk id mt hs pics th ex fo kids =>
    simp only [wf, Bool.and_eq_true, List.all_eq_true] at hw
    have ih := paths_permK L F ⟨id, mt, hs, pics, th, ex, fo, kids⟩ hp kids (fun c hc => by simpa using hw.1 c hc) hw.2
    -- left: own parts, X, pictures, P, extras, E, where X, P, E are what the three traversals write for the sub-documents;
    -- right: own parts, pictures, extras, `relKids`, and `ih` says that `relKids` is X ++ P ++ E rearranged.  Count.
    rw [List.perm_iff_count] at ih ⊢
    intro a
    have := ih a
    simp only [saveXml_own, paths_ownXml, savePics, saveExtras, paths_append, paths_picsOut, paths_extrasOut, relAll,
      givenNames, List.map_append, List.map_cons, List.map_map, List.count_append, List.count_cons, Function.comp_def,
      Bool.false_eq_true, if_false, List.append_nil] at this ⊢
    omega
theorem paths_permK (L : Nat) (F : Str) (d : Doc) (hp : Placed L F d) (ds : List Doc)
    (hk : ∀ c ∈ ds, c.folder = d.folder ++ sSlash ++ kidName d.folder c) (hw : wfs ds = true) :
    (paths (saveXmlKids L ds) ++ paths (savePicsKids L ds) ++ paths (saveExtrasKids L ds)).Perm
      ((relKids d.folder ds).map (F ++ ·)) := by
  cases ds with
  | nil => exact List.Perm.refl _
  | cons c cs =>
    simp only [wfs, Bool.and_eq_true] at hw
    obtain ⟨hst, hpl⟩ := stor_child hp (hk c List.mem_cons_self)
    have h1 := paths_perm L (stor L c) c hpl hw.1
    have h2 := paths_permK L F d hp cs (fun x hx => hk x (List.mem_cons_of_mem _ hx)) hw.2
    -- left: x, X, p, P, e, E (small: written for `c`, capital: for `cs`); `h1` : x ++ p ++ e is the paths of `c` behind
    -- `stor L c`, `h2` : X ++ P ++ E is the rest.  On the right a path of `c` reads `F ++ (name ++ "/" ++ y)`; re-associated
    -- (`← List.append_assoc`) and folded with `← hst` it is `stor L c ++ y` as in `h1`.  Count.
    rw [List.perm_iff_count] at h1 h2 ⊢
    intro a
    have e1 := h1 a
    have e2 := h2 a
    simp only [saveXmlKids, savePicsKids, saveExtrasKids, paths_append, relKids, List.map_append, List.map_cons,
      List.map_map, List.count_append, List.count_cons, Function.comp_def, ← List.append_assoc, ← hst,
      List.append_nil] at e1 e2 ⊢
    omega
end

/-- a path lies in the folder of at most one sub-document: the name is what stands before the first "/" -/
theorem kid_prefix_unique {k k' n : Str} (h1 : 47 ∉ k) (h2 : 47 ∉ k') (p1 : (k ++ sSlash) <+: n)
    (p2 : (k' ++ sSlash) <+: n) : k = k' := by
  have hcut : ∀ k : Str, 47 ∉ k → (k ++ sSlash) <+: n → n.takeWhile (· != 47) = k := by
    rintro k hk ⟨t, rfl⟩
    rw [List.append_assoc, List.takeWhile_append_of_pos fun x hx => bne_iff_ne.mpr fun (he : x = 47) => hk (he ▸ hx)]
    simp [sSlash]
  rw [← hcut k h1 p1, hcut k' h2 p2]

/-- the table of own parts, for both values of each flag: no name twice, none empty, all reserved -/
theorem xmlOwn_facts : ∀ top hs : Bool, (xmlOwn hs).Nodup ∧ ∀ n ∈ xmlOwn hs, n ≠ [] ∧ n ∈ reservedFor top := by
  decide

theorem relKids_prefix (fo : Str) : ∀ ds, ∀ n ∈ relKids fo ds, ∃ c ∈ ds, (kidName fo c ++ sSlash) <+: n
  | [], n, hn => by simp [relKids] at hn
  | c :: cs, n, hn => by
    rw [relKids, List.mem_append, List.mem_map] at hn
    rcases hn with ⟨x, _, rfl⟩ | hn
    · exact ⟨c, List.mem_cons_self, x, rfl⟩
    · obtain ⟨c', hc', hp⟩ := relKids_prefix fo cs n hn
      exact ⟨c', List.mem_cons_of_mem _ hc', hp⟩

mutual
/-- the paths below a well-formed document are pairwise distinct, none is empty, and the only reserved names among them
    are the document's own XML parts -/
theorem relAll_facts (top : Bool) (d : Doc) (h : treeOK top d = true) :
    (relAll d).Nodup ∧ ∀ n ∈ relAll d, n ≠ [] ∧ (n ∈ reservedFor top → n ∈ xmlOwn d.hasSettings) := by
  cases d with
  | mk i mt hs pics th ex fo kids =>
    simp only [treeOK, Bool.and_eq_true] at h
    obtain ⟨hgivenNodup, hkidNames, hgivenClean, _, hkid⟩ := nodeOK_iff.mp h.1
    -- a path below a sub-document begins with its name and "/"; no reserved or given name does
    have hkids : ∀ n ∈ relKids fo kids, n ≠ [] ∧ n ∉ reservedFor top ++ givenNames pics ex := by
      intro n hn
      obtain ⟨c, hc, hpre⟩ := relKids_prefix fo kids n hn
      obtain ⟨_, _, _, hforeign⟩ := hkid c hc
      refine ⟨?_, fun hin => hforeign n hin hpre⟩
      obtain ⟨x, rfl⟩ := hpre
      simp [sSlash]
    simp only [relAll, List.mem_append, List.nodup_append]
    obtain ⟨on, own⟩ := xmlOwn_facts top hs
    refine ⟨⟨⟨on, hgivenNodup, ?_⟩, relKids_nodup fo kids h.2 hkidNames fun c hc => (hkid c hc).2.1, ?_⟩, ?_⟩
    · exact fun a ha b hb hab => (hgivenClean b hb).1 (hab ▸ (own a ha).2)
    · exact fun a ha b hb hab => (hkids b hb).2 (hab ▸ List.mem_append.mpr (ha.imp_left fun h => (own a h).2))
    · rintro n ((hn | hn) | hn)
      · exact ⟨(own n hn).1, fun _ => hn⟩
      · exact ⟨(hgivenClean n hn).2, fun hr => absurd hr (hgivenClean n hn).1⟩
      · exact ⟨(hkids n hn).1, fun hr => absurd (List.mem_append_left _ hr) (hkids n hn).2⟩
theorem relKids_nodup (fo : Str) (ds : List Doc) (h : treeOKs ds = true) (hnd : (ds.map (kidName fo)).Nodup)
    (hk : ∀ c ∈ ds, 47 ∉ kidName fo c) : (relKids fo ds).Nodup := by
  cases ds with
  | nil => simp [relKids]
  | cons c cs =>
    simp only [treeOKs, Bool.and_eq_true] at h
    rw [List.map_cons, List.nodup_cons] at hnd
    obtain ⟨fn, fne⟩ := relAll_facts false c h.1
    rw [relKids, List.nodup_append]
    refine ⟨?_, relKids_nodup fo cs h.2 hnd.2 fun x hx => hk x (List.mem_cons_of_mem _ hx), ?_⟩
    · have hn0 : ([] :: relAll c).Nodup := List.nodup_cons.mpr ⟨fun hin => (fne [] hin).1 rfl, fn⟩
      exact List.Pairwise.map _ (fun a b hab heq => hab (List.append_cancel_left heq)) hn0
    · -- a path of the first block lies in the folder of `c`, one of the rest in the folder of another sub-document
      intro a ha b hb hab
      obtain ⟨x, _, rfl⟩ := List.mem_map.mp ha
      obtain ⟨c', hc', hpre'⟩ := relKids_prefix fo cs b hb
      refine hnd.1 (List.mem_map.mpr ⟨c', hc', ?_⟩)
      exact kid_prefix_unique (hk c' (List.mem_cons_of_mem _ hc')) (hk c List.mem_cons_self) hpre' (hab ▸ ⟨x, rfl⟩)
end

/-- the names the package layer writes at the top itself (`th`: there is a thumbnail) -/
def generatedTop (th : Bool) : List Str :=
  sMimetype :: sManifestPath :: sSlash :: sMeta :: (if th then [sThumbDir, sThumb] else [])

/-- the table of generated names, for both values of each flag: no name twice, all reserved, none an own part -/
theorem generatedTop_facts : ∀ th hs : Bool,
    (generatedTop th).Nodup ∧ ∀ r ∈ generatedTop th, r ∈ reservedFor true ∧ r ∉ xmlOwn hs := by
  decide

theorem paths_save_perm (d : Doc) (h : DocOK d = true) :
    (sMimetype :: sManifestPath :: paths (save d)).Perm (generatedTop d.thumbnail.isSome ++ relAll d) := by
  have hp := paths_perm d.folder.length [] d (Or.inl ⟨rfl, rfl⟩) (wf_of_treeOK true d h)
  have ht : paths (thumbOut d.thumbnail) = if d.thumbnail.isSome then [sThumbDir, sThumb] else [] := by
    cases d.thumbnail <;> rfl
  -- `hp` is `paths_perm` for `d` as if it were a sub-document stored in "": its own parts (folder entry "" in place of
  -- "/", no meta.xml), pictures, extras and everything below, against `"" :: relAll d`.  `save` writes these pieces too,
  -- with the names of `generatedTop` (mimetype and the manifest member put in front) in between.  Count.
  rw [List.perm_iff_count] at hp ⊢
  intro a
  have := hp a
  simp only [save, paths_append, paths_emZ, saveXml_own, paths_ownXml, generatedTop, ht, List.map_id', List.map_cons,
    List.nil_append, List.append_nil, List.count_append, List.count_cons, List.count_nil, Bool.false_eq_true, if_true,
    if_false] at this ⊢
  omega

theorem all_paths_nodup (d : Doc) (h : DocOK d = true) : (sMimetype :: sManifestPath :: paths (save d)).Nodup := by
  obtain ⟨rn, rres⟩ := relAll_facts true d h
  obtain ⟨gn, gres⟩ := generatedTop_facts d.thumbnail.isSome d.hasSettings
  rw [(paths_save_perm d h).nodup_iff, List.nodup_append]
  exact ⟨gn, rn, fun a ha b hb hab => (gres a ha).2 ((rres a (hab ▸ hb)).2 (gres a ha).1)⟩

/-- **C03 (no manifest path twice; in particular exactly one root entry)**: under `DocOK d` the manifest of
    the saved package lists every path once — file entries and folder entries, object trees of any depth,
    pictures and extras of sub-documents included. -/
theorem manifest_nodup (d : Doc) (h : DocOK d = true) : (paths (save d)).Nodup :=
  (List.nodup_cons.mp (List.nodup_cons.mp (all_paths_nodup d h)).2).2

/-- **C03 (no member name twice)**: under `DocOK d` the member names of the saved package are pairwise
    distinct — for object trees of any depth. -/
theorem names_nodup (d : Doc) (h : DocOK d = true) : (names (save d)).Nodup := by
  -- the names are `mimetype`, the manifest member and the paths of the file entries, in another order
  have hsub : (sMimetype :: sManifestPath :: filePaths (save d)).Sublist (sMimetype :: sManifestPath :: paths (save d)) :=
    ((List.filter_sublist.map _).cons_cons _).cons_cons _
  rw [manifest_exact_ordered]
  exact ((all_paths_nodup d h).sublist hsub).perm ((List.perm_append_comm (l₁ := [sManifestPath])).cons _)

/-! ### folder entries are exactly the manifest paths that end in "/" -/

/-- a picture href that does not look like a directory: not ending in "/", not empty -/
def hrefPlain (h : Str) : Bool := !endsSlash h && !h.isEmpty

mutual
/-- **`plainHrefs d`** — the extra decidable hypothesis of `folder_iff_slash`: no picture href of any document
    of the tree ends in "/" or is empty -/
def plainHrefs : Doc → Bool
  | ⟨_, _, _, pics, _, _, _, kids⟩ => pics.all (fun p => hrefPlain p.href) && plainHrefsK kids
def plainHrefsK : List Doc → Bool
  | [] => true
  | c :: cs => plainHrefs c && plainHrefsK cs
end

theorem endsSlash_append (F h : Str) (hne : h ≠ []) : endsSlash (F ++ h) = endsSlash h := by
  cases hl : h.getLast? with
  | none => exact absurd (List.getLast?_eq_none_iff.mp hl) hne
  | some x => simp [endsSlash, List.getLast?_append, hl]

theorem endsSlash_stor (L : Nat) (c : Doc) : endsSlash (stor L c) = true := by
  simp [endsSlash, stor, sSlash, List.getLast?_append]

def SlashOK (o : Out) : Prop := ∀ e ∈ o.man, e.isFolder = endsSlash e.path

theorem SlashOK.append {a b : Out} (ha : SlashOK a) (hb : SlashOK b) : SlashOK (a ++ b) :=
  fun e he => (List.mem_append.mp he).elim (ha e) (hb e)

theorem slashOK_empty : SlashOK Out.empty := fun _ he => nomatch he

theorem slashOK_emM (e : ME) (h : e.isFolder = endsSlash e.path) : SlashOK (emM e) := by
  intro e' he
  rw [emM_man, List.mem_singleton] at he
  rw [he, h]

theorem slashOK_emZ (z : ZE) : SlashOK (emZ z) := fun _ he => nomatch he

theorem slashOK_emFile (F n : Str) {m : Method} {c : Content} {t : Str} (hn : n ≠ []) (hs : endsSlash n = false) :
    SlashOK (emFile (F ++ n) m c t) := by
  intro e he
  rw [emFile_man, List.mem_singleton] at he
  rw [he, endsSlash_append F n hn, hs]

theorem slashOK_ownXml (top : Bool) (F : Str) (d : Doc) (hF : endsSlash (if top then sSlash else F) = true) :
    SlashOK (ownXml top F d) := by
  refine (slashOK_emM _ hF.symm).append (Out.concat_ind slashOK_empty SlashOK.append fun k _ => ?_)
  cases k
  case metadata => exact slashOK_emFile [] sMeta (by decide) (by decide)
  all_goals exact slashOK_emFile F _ (by decide) (by decide)

theorem slashOK_saveXmlKids (L : Nat) (ds : List Doc) : SlashOK (saveXmlKids L ds) := by
  rw [(walk_saveXml L).eqK]
  refine Out.concat_ind slashOK_empty SlashOK.append fun p hp => slashOK_ownXml false p.1 p.2 ?_
  rw [objectsK_fst L ds p hp]
  exact endsSlash_stor L p.2

theorem slashOK_picsOut (F : Str) (ps : List Pic) (h : ∀ p ∈ ps, hrefPlain p.href = true) : SlashOK (picsOut F ps) := by
  rw [picsOut_eq]
  refine Out.concat_ind slashOK_empty SlashOK.append fun p hp => ?_
  have := h p hp
  simp only [hrefPlain, Bool.and_eq_true, Bool.not_eq_true', List.isEmpty_eq_false_iff] at this
  exact slashOK_emFile F p.href this.2 this.1

mutual
theorem slashOK_savePics (L : Nat) (F : Str) (d : Doc) (h : plainHrefs d = true) : SlashOK (savePics L F d) := by
  cases d with
  | mk id mt hs pics th ex fo kids =>
    simp only [plainHrefs, Bool.and_eq_true, List.all_eq_true] at h
    simp only [savePics]
    exact SlashOK.append (slashOK_picsOut F pics h.1) (slashOK_savePicsKids L kids h.2)
theorem slashOK_savePicsKids (L : Nat) (ds : List Doc) (h : plainHrefsK ds = true) :
    SlashOK (savePicsKids L ds) := by
  cases ds with
  | nil => exact slashOK_empty
  | cons c cs =>
    simp only [plainHrefsK, Bool.and_eq_true] at h
    simp only [savePicsKids]
    exact SlashOK.append (slashOK_savePics L _ c h.1) (slashOK_savePicsKids L cs h.2)
end

theorem slashOK_extrasOut (F : Str) {top : Bool} {pics : List Pic} {ex : List Extra} {fo : Str} {kids : List Doc}
    (h : nodeOK top pics ex fo kids = true) : SlashOK (extrasOut F ex) := by
  obtain ⟨_, _, g3, g4, _⟩ := nodeOK_iff.mp h
  intro e he
  rw [extrasOut_man] at he
  obtain ⟨x, hl, rfl⟩ := List.mem_map.mp he
  rw [endsSlash_append F _ (g3 _ (List.mem_append_right _ (List.mem_map_of_mem hl))).2]
  exact beq_iff_eq.mp (g4 x hl)

theorem slashOK_thumbOut (t : Option Thumb) : SlashOK (thumbOut t) := by
  cases t with
  | none => exact slashOK_empty
  | some t => exact (slashOK_emM _ (by decide)).append (slashOK_emFile [] sThumb (by decide) (by decide))

mutual
theorem slashOK_saveExtras (L : Nat) (top : Bool) (F : Str) (d : Doc) (h : treeOK top d = true) :
    SlashOK (saveExtras L F d) := by
  cases d with
  | mk id mt hs pics th ex fo kids =>
    simp only [treeOK, Bool.and_eq_true] at h
    simp only [saveExtras]
    exact SlashOK.append (slashOK_extrasOut F h.1) (slashOK_saveExtrasKids L kids h.2)
theorem slashOK_saveExtrasKids (L : Nat) (ds : List Doc) (h : treeOKs ds = true) : SlashOK (saveExtrasKids L ds) := by
  cases ds with
  | nil => exact slashOK_empty
  | cons c cs =>
    simp only [treeOKs, Bool.and_eq_true] at h
    simp only [saveExtrasKids]
    exact SlashOK.append (slashOK_saveExtras L false _ c h.1) (slashOK_saveExtrasKids L cs h.2)
end

/-- **C03 (folder entries, syntactically)**: under `DocOK d` and `plainHrefs d` a manifest entry is one of the
    folder entries of `folder_entries` exactly when its path ends in "/" — so a reader of the package can tell
    the two kinds apart, and `manifest_exact` speaks about all paths not ending in "/". -/
theorem folder_iff_slash (d : Doc) (h : DocOK d = true) (hp : plainHrefs d = true) :
    ∀ e ∈ (save d).man, e.isFolder = endsSlash e.path := by
  have hx : SlashOK (saveXml d.folder.length true [] d) := by
    rw [saveXml_own]; exact (slashOK_ownXml true [] d rfl).append (slashOK_saveXmlKids _ _)
  exact (((((slashOK_emZ _).append hx).append (slashOK_savePics _ [] d hp)).append (slashOK_thumbOut _)).append
    (slashOK_saveExtras _ true [] d h)).append (slashOK_emZ _)

/-! ### the hypothesis is satisfiable -/

/-- a document with an explicitly named object ("/MyObj") holding an object of its own ("/MyObj/Object 1"),
    a second object "/Object 2", pictures at every level (one by file name), a thumbnail, file and
    directory extras at the top and inside an object -/
def sampleDoc : Doc :=
  ⟨0, sOdt, true, [⟨sPictures ++ [97], .image [1, 2], [105]⟩], some ⟨[7], [105]⟩,
    [⟨[120, 47, 121], [], some [9]⟩, ⟨[120, 47], [], none⟩], [],
    [⟨1, sOdt, false, [⟨sPictures ++ [97], .file [102], []⟩], none, [⟨sMeta, sTextXml, some [60]⟩, ⟨[99, 47], [], none⟩],
        [47, 77, 121, 79, 98, 106],
        [⟨2, sOdt, true, [⟨sPictures ++ [98], .image [], []⟩], none, [], [47, 77, 121, 79, 98, 106] ++ sSlash ++ objPrefix 1 |>.dropLast, []⟩]⟩,
     ⟨3, sOdt, false, [], none, [], (sSlash ++ objPrefix 2).dropLast, []⟩]⟩

/-- `DocOK` and `plainHrefs` are satisfiable (by a document that exercises every clause) -/
theorem docOK_sample : DocOK sampleDoc = true ∧ plainHrefs sampleDoc = true
    ∧ (names (save sampleDoc)).length = 19 := by decide +kernel

/-- a sub-document (folder "/Object 1") that carries an extra named meta.xml — what `load` makes of "Object 1/meta.xml" — with
    an object of its own that has a picture -/
def subWithOwnMeta : Doc :=
  ⟨1, sOdt, false, [], none, [⟨sMeta, sTextXml, some [60]⟩], (sSlash ++ objPrefix 1).dropLast,
    [⟨2, sOdt, false, [⟨sPictures ++ [97], .image [1], [105]⟩], none, [], (sSlash ++ objPrefix 1 ++ objPrefix 1).dropLast, []⟩]⟩

/-- **finding KF-C03-4** (`sig=subdocument-with-reserved-extra-saved-on-its-own`): saved on its own, the sub-document is a
    package root: `save` generates meta.xml AND writes the extra of that name (`DocOK` is false: meta.xml is reserved for
    the root).  Everything else is right for a document whose folder is not "": its nested object and the picture are stored
    relative to it ("Object 1/…"), not under its absolute folder. -/
theorem finding_subdocument_own_meta :
    DocOK subWithOwnMeta = false ∧ (names (save subWithOwnMeta)).count sMeta = 2
    ∧ (names (save subWithOwnMeta)).contains (objPrefix 1 ++ sPictures ++ [97]) = true
    ∧ (names (save subWithOwnMeta)).contains (objPrefix 1 ++ objPrefix 1 ++ sPictures ++ [97]) = false := by
  decide +kernel

/-- without the extra the same sub-document saved on its own is well-formed: the theorems (`names_nodup`, `manifest_nodup`,
    `pictures_present` …) are stated for any `d.folder`, with `d.folder.length` as the offset -/
theorem subdocument_on_its_own_sample :
    let d : Doc := ⟨1, sOdt, false, [], none, [], (sSlash ++ objPrefix 1).dropLast,
      [⟨2, sOdt, false, [⟨sPictures ++ [97], .image [1], [105]⟩], none, [], (sSlash ++ objPrefix 1 ++ objPrefix 1).dropLast, []⟩]⟩
    DocOK d = true ∧ names (save d) = [sMimetype, sStyles, sContent, sMeta, objPrefix 1 ++ sStyles, objPrefix 1 ++ sContent,
      objPrefix 1 ++ sPictures ++ [97], sManifestPath] := by
  decide +kernel

/-! ### load: every document it builds, from ANY package, is well-formed -/

/-- a folder in the package: "" or something ending in "/" -/
def PathOK (P : Str) : Prop := P = [] ∨ P.getLast? = some 47

theorem pathOK_append (P : Str) {c : Str} (hc : IsComp c) : PathOK (P ++ c) := by
  right
  rw [List.getLast?_append, (isComp_facts hc).2.1]; rfl

theorem folderOfPath_append (P k : Str) (hP : PathOK P) :
    folderOfPath (P ++ (k ++ sSlash)) = folderOfPath P ++ sSlash ++ k := by
  rw [← List.append_assoc, folderOfPath_slash]
  rcases hP with rfl | hP
  · rfl
  · obtain ⟨P', rfl⟩ : ∃ P', P = P' ++ sSlash := List.getLast?_eq_some_iff.mp hP
    rw [folderOfPath_slash]
    simp [sSlash]

theorem chainEnd_pathOK (keys : List Str) : ∀ (f : Nat) (op rest : Str), PathOK op → PathOK (chainEnd keys f op rest) := by
  intro f op rest h
  fun_induction chainEnd keys f op rest with
  | case2 f op rest c ho hk ih => exact ih (pathOK_append op (objComp_iff.mp ho).1)
  | case1 | case3 | case4 => exact h

/-- what `load` works with: the dict of the manifest (no key twice), and every `z.read` it needs succeeds -/
structure LoadCtx (p : Package) (man : List (Str × Str)) (keys : List Str) : Prop where
  hnd : (man.map (·.1)).Nodup
  hread : ∀ e ∈ man, needsRead keys e = true → (zread p.members e.1).isSome = true

theorem picture_not_reserved (top : Bool) (n : Str) (h : isPicturePath n = true) : n ∉ reservedFor top ∧ n ≠ [] := by
  have tbl : ∀ top, ∀ r ∈ [] :: reservedFor top, isPicturePath r = false := by decide
  refine ⟨fun hr => ?_, fun he => ?_⟩
  · rw [tbl top n (List.mem_cons_of_mem _ hr)] at h; cases h
  · rw [tbl top n (he ▸ List.mem_cons_self)] at h; cases h

theorem kept_not_picture {P : Str} {e : Str × Str} (hk : isKept P e = true) :
    isPicturePath (e.1.drop P.length) = false := by
  simp only [isKept, Bool.and_eq_true, Bool.not_eq_true'] at hk
  exact hk.1.1.1

/-- `load` reads every kept entry whose name does not end in "/" -/
theorem needsRead_kept {keys : List Str} {e : Str × Str} (hk : isKept (chainOf keys e.1) e = true)
    (hs : (e.1.drop (chainOf keys e.1).length).getLast? ≠ some 47) : needsRead keys e = true := by
  simp only [needsRead, hk, Bool.true_and, Bool.or_eq_true, bne_iff_ne, ne_eq]
  exact Or.inr hs

theorem kept_not_reserved (P : Str) (e : Str × Str) (hk : isKept P e = true) :
    e.1.drop P.length ∉ reservedFor (decide (P = [])) ∧ e.1.drop P.length ≠ [] := by
  -- `isKept` has a test for "" and one for every reserved name: the three parsed parts by the name below `P`, the others
  -- by the whole key
  simp only [isKept, isParsedPart, isRegenerated, Bool.and_eq_true, Bool.not_eq_true', Bool.or_eq_false_iff,
    beq_eq_false_iff_ne] at hk
  obtain ⟨⟨⟨_, hthumb⟩, ⟨⟨⟨hset, hcon⟩, hsty⟩, hemp⟩, hmeta⟩, ⟨⟨hroot, hthd⟩, hmime⟩, hman⟩ := hk
  refine ⟨?_, hemp⟩
  by_cases hP : P = []
  · -- the top document: the name is the whole key, all nine reserved names are refused
    subst hP
    rw [List.length_nil, List.drop_zero] at *
    simp only [reservedFor, decide_true, if_true, List.mem_cons, List.not_mem_nil, or_false, not_or]
    exact ⟨hsty, hcon, hset, hmeta, hmime, hthumb, hman, hroot, hthd⟩
  · -- a sub-document: only the three parsed parts are reserved
    simp only [reservedFor, hP, decide_false, Bool.false_eq_true, if_false, List.mem_cons, List.not_mem_nil, or_false, not_or]
    exact ⟨hsty, hcon, hset⟩

theorem reserved_outside {top : Bool} {c n : Str} (hc : IsComp c) (hn : n ∈ reservedFor top) : ¬ c <+: n := by
  obtain ⟨ds, rfl, _, _⟩ := hc
  rintro ⟨t, rfl⟩
  have tbl : ∀ top, ∀ r ∈ reservedFor top, r.take 7 ≠ sObjectSp := by decide
  exact tbl top _ hn (by simp [sObjectSp])

theorem kidName_of_folder {fo k : Str} {d : Doc} (h : d.folder = fo ++ sSlash ++ k) : kidName fo d = k := by
  rw [kidName, h, List.drop_left' (by simp [sSlash])]

theorem givenNames_at (p : Package) (man : List (Str × Str)) (keys : List Str) (P : Str) (hnd : (man.map (·.1)).Nodup) :
    givenNames (picsAt p man keys P) (extrasAt p man keys P) =
      ((entriesAt man keys P).filter fun e => isPicturePath (e.1.drop P.length)).map (fun e => e.1.drop P.length)
      ++ (((entriesAt man keys P).filter (isKept P)).filter fun e => e.1.drop P.length ≠ sDocSig).map
          (fun e => e.1.drop P.length) := by
  rw [givenNames, picsAt_eq hnd, extrasAt, liveExtras, List.filter_map, List.map_map, List.map_map]
  rfl

/-- a sub-document `load` attaches below the folder `P`: its folder `Q` is `P` plus one component `k ++ "/"`, a listed key;
    `k` is a proper name (not empty, no "/"), and a document carrying the folder attribute of `Q` has the name `k` below
    the document of `P` -/
theorem kid_at {keys : List Str} {P : Str} (hP : PathOK P) {Q : Str} (hQ : Q ∈ kidsOf keys P) {d : Doc}
    (hd : d.folder = folderOfPath Q) :
    ∃ k, IsComp (k ++ sSlash) ∧ Q = P ++ (k ++ sSlash) ∧ Q ∈ keys ∧ 47 ∉ k ∧ k ≠ [] ∧ kidName (folderOfPath P) d = k
      ∧ d.folder = folderOfPath P ++ sSlash ++ k := by
  obtain ⟨c, hc, rfl, hin⟩ := kidsOf_spec hQ
  obtain ⟨_, _, k, rfl, hno, hne⟩ := isComp_facts hc
  rw [folderOfPath_append P k hP] at hd
  exact ⟨k, hc, rfl, hin, hno, hne, kidName_of_folder hd, hd⟩

/-- one document that `load` builds is well-formed, whatever stands for its sub-documents as long as they carry
    the folder of their place, and with all of them or only some (none, when the fuel is used up) -/
theorem nodeOK_at (p : Package) (man : List (Str × Str)) (keys : List Str) (ctx : LoadCtx p man keys)
    (P : Str) (hP : PathOK P) (g : Str → Doc) (hg : ∀ Q, (g Q).folder = folderOfPath Q) (l : List Str)
    (hl : l.Sublist (kidsOf keys P)) :
    nodeOK (decide (P = [])) (picsAt p man keys P) (extrasAt p man keys P) (folderOfPath P) (l.map g) = true := by
  have hnd := ctx.hnd
  -- every given name is the name of an entry dispatched here, a picture or a kept one
  have hgiven : ∀ n ∈ givenNames (picsAt p man keys P) (extrasAt p man keys P),
      (∃ e ∈ entriesAt man keys P, n = e.1.drop P.length) ∧ n ∉ reservedFor (decide (P = [])) ∧ n ≠ [] := by
    intro n hn
    rw [givenNames_at p man keys P hnd, List.mem_append, List.mem_map, List.mem_map] at hn
    rcases hn with ⟨e, he, rfl⟩ | ⟨e, he, rfl⟩
    · rw [List.mem_filter] at he
      exact ⟨⟨e, he.1, rfl⟩, picture_not_reserved _ _ he.2⟩
    · rw [List.mem_filter, List.mem_filter] at he
      exact ⟨⟨e, he.1.1, rfl⟩, kept_not_reserved P e he.1.2⟩
  refine nodeOK_iff.mpr ⟨?_, ?_, fun n hn => (hgiven n hn).2, ?_, ?_⟩
  · -- the given names are distinct: pictures and kept entries are different entries, and different entries have
    -- different names
    rw [givenNames_at p man keys P hnd, List.nodup_append]
    refine ⟨entriesAt_names_nodup man keys P hnd _,
      (entriesAt_names_nodup man keys P hnd _).sublist (List.filter_sublist.map _), ?_⟩
    intro a ha b hb hab
    obtain ⟨e1, h1, rfl⟩ := List.mem_map.mp ha
    obtain ⟨e2, h2, rfl⟩ := List.mem_map.mp hb
    have hpic := kept_not_picture (List.mem_filter.mp (List.mem_filter.mp h2).1).2
    rw [← hab, (List.mem_filter.mp h1).2] at hpic
    cases hpic
  · -- the names of the sub-documents are distinct
    rw [List.map_map]
    refine nodup_map_on (fun Q1 h1 Q2 h2 hab => ?_) ((kidsOf_nodup keys P).sublist hl)
    obtain ⟨k1, _, rfl, _, _, _, hk1, _⟩ := kid_at hP (hl.subset h1) (hg Q1)
    obtain ⟨k2, _, rfl, _, _, _, hk2, _⟩ := kid_at hP (hl.subset h2) (hg Q2)
    rw [Function.comp, Function.comp, hk1, hk2] at hab
    rw [hab]
  · -- an extra has content None exactly if its name ends in "/": `load` read the others
    intro x hx
    obtain ⟨e, he, hk, rfl⟩ := mem_extrasAt.mp (List.mem_filter.mp hx).1
    have hm := mem_entriesAt.mp he
    simp only [toExtra, endsSlash]
    cases hl : (e.1.drop P.length).getLast? == some 47
    · simpa using ctx.hread e hm.1 (needsRead_kept (hm.2 ▸ hk) (by simpa [hm.2] using hl))
    · rfl
  · -- each sub-document
    intro d hd
    obtain ⟨Q, hQ, rfl⟩ := List.mem_map.mp hd
    obtain ⟨k, hc, rfl, hin, hno, hne, hkn, hfo⟩ := kid_at hP (hl.subset hQ) (hg Q)
    rw [hkn]
    refine ⟨hne, hno, hfo, fun n hn hpre => ?_⟩
    rcases List.mem_append.mp hn with hn | hn
    · exact reserved_outside hc hn hpre
    · obtain ⟨⟨e, he, rfl⟩, _⟩ := hgiven n hn
      exact entry_stops he hc hpre hin

theorem treeOKs_iff : ∀ ds : List Doc, treeOKs ds = true ↔ ∀ d ∈ ds, treeOK false d = true
  | [] => by simp [treeOKs]
  | c :: cs => by simp [treeOKs, treeOKs_iff cs]

/-- every tree `buildDoc` builds is well-formed, whatever the fuel (with the fuel used up the document has no
    sub-documents, which `nodeOK_at` allows) -/
theorem buildDoc_ok (p : Package) (man : List (Str × Str)) (keys : List Str) (ctx : LoadCtx p man keys) :
    ∀ (f : Nat) (P : Str), PathOK P → treeOK (decide (P = [])) (buildDoc p man keys f P) = true
  | 0, P, hP => by
    simp only [buildDoc, treeOK, treeOKs, Bool.and_true]
    exact nodeOK_at p man keys ctx P hP (buildDoc p man keys 0) (buildDoc_folder p man keys 0) [] (List.nil_sublist _)
  | f + 1, P, hP => by
    simp only [buildDoc, treeOK, Bool.and_eq_true]
    refine ⟨nodeOK_at p man keys ctx P hP (buildDoc p man keys f) (buildDoc_folder p man keys f) _ (List.Sublist.refl _),
      (treeOKs_iff _).mpr fun d hd => ?_⟩
    obtain ⟨Q, hQ, rfl⟩ := List.mem_map.mp hd
    obtain ⟨c, hc, rfl, _⟩ := kidsOf_spec hQ
    have hne : P ++ c ≠ [] := fun he => (isComp_facts hc).1 (List.append_eq_nil_iff.mp he).2
    simpa [hne] using buildDoc_ok p man keys ctx f _ (pathOK_append P hc)

/-- **C03 (`load` produces well-formed documents — full strength, no hypothesis)**: every document that
    `load` builds, from ANY package — sub-documents at any depth, with their own pictures and extra
    files, any numbering, any manifest order — satisfies `DocOK`; so `manifest_nodup` and `names_nodup`
    hold for whatever is saved from it (`loaded_saves_clean`). -/
theorem load_docOK (p : Package) (d : Doc) (hl : load p = some d) : DocOK d = true := by
  obtain ⟨hread, rfl⟩ := load_some p d hl
  have := buildDoc_ok p _ _ ⟨manifestlist_nodup _, hread⟩ (loadFuel ((manifestlist p.manifest).map (·.1))) [] (Or.inl rfl)
  generalize buildDoc p _ _ _ [] = b at this ⊢
  cases b
  simpa [DocOK, treeOK] using this

/-- **C03 (no member name and no manifest path twice after load + save, every package)** -/
theorem loaded_saves_clean (p : Package) (d : Doc) (hl : load p = some d) :
    (names (save d)).Nodup ∧ (paths (save d)).Nodup :=
  ⟨names_nodup d (load_docOK p d hl), manifest_nodup d (load_docOK p d hl)⟩

/-- a package with the root entry, "Thumbnails/", a picture, an object folder "Object 7/" listed after one of its
    files, with a picture, a file, a meta.xml of its own and an object of its own, a file extra and a directory
    extra: loads, and saves without any path twice -/
def samplePackage : Package :=
  ⟨some sOdt,
    [(sSlash, sOdt), (sContent, sTextXml), (sStyles, sTextXml), (sThumbDir, []), (sThumb, [105]), (sPictures ++ [97], [105]),
     (objPrefix 7 ++ sContent, sTextXml), (objPrefix 7, sOdt), (objPrefix 7 ++ sPictures ++ [98], [105]),
     (objPrefix 7 ++ [120], []), (objPrefix 7 ++ sMeta, sTextXml), (objPrefix 7 ++ objPrefix 1, sOdt),
     (objPrefix 7 ++ objPrefix 1 ++ sContent, sTextXml), (objPrefix 5 ++ [121], []), ([120, 47, 121], []), ([120, 47], [])],
    [(sContent, [60]), (sStyles, [60]), (sThumb, [5]), (sPictures ++ [97], [1]), (objPrefix 7 ++ sContent, [60]),
     (objPrefix 7 ++ sPictures ++ [98], [2]), (objPrefix 7 ++ [120], [3]), (objPrefix 7 ++ sMeta, [60]),
     (objPrefix 7 ++ objPrefix 1 ++ sContent, [60]), (objPrefix 5 ++ [121], [4]), ([120, 47, 121], [2])], []⟩

theorem load_sample :
    (load samplePackage).map (fun d => (DocOK d, plainHrefs d, decide (paths (save d)).Nodup)) = some (true, true, true)
    ∧ (load samplePackage).map (fun d => d.children.map (fun c => (c.id, c.folder))) = some [(8, (sSlash ++ objPrefix 7).dropLast)]
    ∧ (load samplePackage).map (fun d => d.children.map (fun c => c.extras.map (·.filename))) = some [[[120], sMeta]]
    ∧ (load samplePackage).map (fun d => d.children.map (fun c => c.children.map (·.folder)))
        = some [[(sSlash ++ objPrefix 7 ++ objPrefix 1).dropLast]]
    ∧ (load samplePackage).map (fun d => d.extras.map (·.filename)) = some [objPrefix 5 ++ [121], [120, 47, 121], [120, 47]]
    ∧ (load samplePackage).map (fun d => d.thumbnail.map (·.mediatype)) = some (some [105]) := by
  decide +kernel

/-- residual class for `folder_iff_slash` only: a directory entry below "Pictures/" whose zip member exists
    becomes a picture whose href ends in "/" (`plainHrefs` false); names and paths are still pairwise distinct -/
theorem pictureDir_sample :
    let p : Package := ⟨some sOdt, [(sSlash, sOdt), (sContent, sTextXml), (sPictures ++ [115, 47], [])],
      [(sContent, [60]), (sPictures ++ [115, 47], [])], []⟩
    (load p).map (fun d => (DocOK d, plainHrefs d, decide (names (save d)).Nodup,
        decide (paths (save d)).Nodup)) = some (true, false, true, true) := by
  decide +kernel

end OdfModel.Props.C03
