/-
  Property C04 — saving a document and loading it back reproduces the document.

  Model: `OdfModel.LoadSax` (LoadParser as a state machine over SAX events, with the style index of
  `build_caches`), composed with the XML round trip `parseDoc_render` of the XML layer (C02).
  Tie: harness/c04.py — the recorded SAX streams of every saved part are fed to `drv_load` and the sections are
  compared with what the real `load()` built; the oracle compares load(save(d)) with d on the real library.

  Trusted legs (said so in the statements): expat delivers the event stream `evN t` of the infoset `t` the
  reference parser computes, cut into chunks in any way (`Chunked`); the zip container and the manifest dispatch
  (pictures, sub-documents) are the subject of C03/C16 and of the oracle.
-/
import OdfModel.LoadSax
import OdfModel.Xml.Compose
namespace OdfModel.Props.C04
open OdfModel OdfModel.Xml OdfModel.Spec OdfModel.LoadSax

@[simp] theorem appF_nil_left (g : Forest) : appF .nil g = g := rfl
@[simp] theorem appF_cons (h : Node) (t g : Forest) : appF (.cons h t) g = .cons h (appF t g) := rfl

@[simp] theorem appF_nil_right : (f : Forest) → appF f .nil = f
  | .nil => rfl
  | .cons h t => by simp [appF_nil_right t]

theorem appF_assoc : (a b c : Forest) → appF (appF a b) c = appF a (appF b c)
  | .nil, _, _ => rfl
  | .cons h t, b, c => by simp [appF_assoc t b c]

@[simp] theorem run_nil (st : St) : run st [] = some st := rfl

theorem run_cons (st : St) (e : Event) (es : List Event) :
    run st (e :: es) = (step st e).bind (fun s => run s es) := by
  simp only [run]; cases step st e <;> rfl

theorem run_append (st : St) (a b : List Event) : run st (a ++ b) = (run st a).bind (fun s => run s b) := by
  induction a generalizing st with
  | nil => rfl
  | cons e es ih => simp only [List.cons_append, run_cons, ih, Option.bind_assoc]

/-! ### `run` on the events of a tree -/

theorem run_text (st : St) (s : Str) : run st (evN (.text s)) = some (stepChars st s) := rfl
theorem run_cdata (st : St) (s : Str) : run st (evN (.cdata s)) = some (stepChars st s) := rfl

theorem run_elem_eq (st : St) (q : QName) (a : List (QName × Str)) (k : Forest) :
    run st (evN (.elem q a k)) =
      (stepStart st q a).bind fun s => (run s (evF k)).bind fun s => stepStop s q := by
  simp only [evN, run_cons, run_append, step, run_nil, Option.bind_fun_some]

theorem run_evF_cons (st : St) (n : Node) (t : Forest) :
    run st (evF (.cons n t)) = (run st (evN n)).bind fun s => run s (evF t) := by
  simp only [evF, run_append]

/-! ### C04 (chunking): any way of cutting the character data gives the same result -/

/-- `evs'` is `evs` with every character event cut into an arbitrary list of chunks (empty chunks and, for an empty
    string, no chunk at all included) — what a SAX parser is free to do -/
inductive Chunked : List Event → List Event → Prop where
  | nil : Chunked [] []
  | chars (s : Str) (cs : List Str) (r r' : List Event) : cs.flatten = s → Chunked r r' →
      Chunked (.chars s :: r) (cs.map Event.chars ++ r')
  | other (e : Event) (r r' : List Event) : Chunked r r' → Chunked (e :: r) (e :: r')

theorem stepChars_nil (st : St) : stepChars st [] = st := by
  unfold stepChars; simp

theorem stepChars_append (st : St) (a b : Str) : stepChars (stepChars st a) b = stepChars st (a ++ b) := by
  unfold stepChars
  by_cases h : (st.parsing && st.skip == 0) = true <;> simp [h]

theorem run_chunks (st : St) (cs : List Str) (r : List Event) :
    run st (cs.map Event.chars ++ r) = run (stepChars st cs.flatten) r := by
  induction cs generalizing st with
  | nil => simp [stepChars_nil]
  | cons c cs ih => rw [List.flatten_cons, ← stepChars_append, ← ih]; rfl

/-- **C04 (build_chunk_invariant)**: for EVERY state of the parser and EVERY re-chunking of the character events,
    the run gives the same result (also the same crash). -/
theorem build_chunk_invariant (evs evs' : List Event) (h : Chunked evs evs') :
    ∀ st : St, run st evs' = run st evs := by
  induction h with
  | nil => intro st; rfl
  | chars s cs r r' hs _ ih => intro st; rw [run_chunks, hs, ih]; rfl
  | other e r r' _ ih => intro st; simp only [run_cons, ih]

theorem chunked_refl (evs : List Event) : Chunked evs evs := by
  induction evs with
  | nil => exact .nil
  | cons e r ih =>
    cases e with
    | chars s => simpa using Chunked.chars s [s] r r (by simp) ih
    | _ => exact .other _ r r ih

/-! ### what LoadParser builds from the events of a forest -/

def hasElemF : Forest → Bool
  | .nil => false
  | .cons (.elem _ _ _) _ => true
  | .cons (.text _) t => hasElemF t
  | .cons (.cdata _) t => hasElemF t

/-- the children LoadParser gives an element whose content is `f`, with pending character data `acc`: character
    data (text and CDATA alike) is accumulated over any number of events and becomes ONE text node in front of the
    next element / at the end tag; an empty accumulation gives no node; nothing is stripped.
    `flushT acc f` (Xml/NsRoundTrip.lean) is `f` with the text node `acc` in front unless `acc` is empty; `mergeTF` is
    `canonTF` of that file without the filter `hu` on the strings (`canonTF_eq_merge`). -/
def mergeTF (acc : Str) : Forest → Forest
  | .nil => flushT acc .nil
  | .cons (.text s) t => mergeTF (acc ++ s) t
  | .cons (.cdata s) t => mergeTF (acc ++ s) t
  | .cons (.elem q a kids) t => flushT acc (.cons (.elem q a (mergeTF [] kids)) (mergeTF [] t))

/-- the same, split into the nodes that are complete and the character data still pending at the end -/
def mergeK (acc : Str) : Forest → Forest × Str
  | .nil => (.nil, acc)
  | .cons (.text s) t => mergeK (acc ++ s) t
  | .cons (.cdata s) t => mergeK (acc ++ s) t
  | .cons (.elem q a kids) t => (flushT acc (.cons (.elem q a (mergeTF [] kids)) (mergeK [] t).1), (mergeK [] t).2)

theorem appF_flushT (acc : Str) (f g : Forest) : appF (flushT acc f) g = flushT acc (appF f g) := by
  unfold flushT; split <;> rfl

theorem mergeTF_eq (acc : Str) (f : Forest) :
    mergeTF acc f = appF (mergeK acc f).1 (flushT (mergeK acc f).2 .nil) := by
  fun_induction mergeK acc f with
  | case1 acc => rfl
  | case2 acc s t ih | case3 acc s t ih => exact ih
  | case4 acc q a kids t ih => simp [mergeTF, appF_flushT, ih]

theorem mergeK_noElem (acc : Str) (f : Forest) (h : hasElemF f = false) : (mergeK acc f).1 = .nil := by
  fun_induction mergeK acc f with
  | case1 acc => rfl
  | case2 acc s t ih | case3 acc s t ih => exact ih h
  | case4 acc q a kids t ih => nomatch h

/-- names registered when `(q, attrs)` is attached under `pq` (no clash) -/
def regOne (pq : Option QName) (q : QName) (a : List (QName × Str)) : List Str :=
  match pq with
  | none => []
  | some p =>
    if q = qStyle ∧ (p = qStyles ∨ p = qAutoStyles) then
      match lookupA aStyleName a with
      | some n => [n]
      | none => []
    else []

mutual
/-- the names registered while a subtree is attached under `pq`, in document order.  An office:styles /
    office:automatic-styles element may occur anywhere (inside an inline office:document); the style:style children
    of such an element are registered like those of the real sections. -/
def regN (pq : Option QName) : Node → List Str
  | .elem q a k => regOne pq q a ++ regAllF (pq.map (fun _ => q)) k
  | .text _ => []
  | .cdata _ => []
def regAllF (pq : Option QName) : Forest → List Str
  | .nil => []
  | .cons h t => regN pq h ++ regAllF pq t
end

/-- none of the new names is registered already, and they differ from each other -/
def fresh (names : List Str) : List Str → Bool
  | [] => true
  | n :: r => !(names.contains n) && fresh (names ++ [n]) r

/-- `attachToRoot` on the document alone: only a section root takes the nodes -/
def docAfter (r : Root) (d : Doc) (ns : Forest) : Doc :=
  match r with
  | .sec s => d.app s ns
  | _ => d

@[simp] theorem attachToRoot_eq (st : St) (ns : Forest) :
    attachToRoot st ns = { st with doc := docAfter st.root st.doc ns } := by
  obtain ⟨doc, names, fix, sp, parsing, data, root, spine, depth, skip, fonts, currDet⟩ := st
  cases root <;> rfl

/-- `addToParent` made total: `ns` appended to the children of the innermost open element, or of the root -/
def appendKids (st : St) (ns : Forest) : St :=
  match st.spine with
  | f :: r => { st with spine := f.add ns :: r }
  | [] => attachToRoot st ns

/-- Python's `parent` exists and is not None, so `addToParent` succeeds -/
def ParentOK (st : St) : Prop := st.spine ≠ [] ∨ st.root = .top ∨ st.root = .det ∨ ∃ s, st.root = .sec s

theorem addToParent_ok (st : St) (ns : Forest) (h : ParentOK st) : addToParent st ns = some (appendKids st ns) := by
  unfold addToParent appendKids attachToRoot
  cases hs : st.spine with
  | cons f r => rfl
  | nil =>
    rcases h with h | h | h | ⟨s, h⟩
    · exact absurd hs h
    all_goals simp [h]

/-- the state after the events of `f`, in closed form -/
def result (st : St) (f : Forest) : St :=
  { appendKids st (mergeK st.data f).1 with
      data := (mergeK st.data f).2
      names := st.names ++ regAllF (parentQ st) f
      currDet := st.currDet && !hasElemF f }

/-- the pending character data made a text node of the parent (what both tag handlers do first) -/
def flushP (st : St) : St :=
  if st.data.isEmpty then st else { appendKids st (.cons (.text st.data) .nil) with data := [] }

/-- the state behind the start tag of an element that is built: the pending text flushed, a new frame on the spine -/
def openE (st : St) (q : QName) (a : List (QName × Str)) : St :=
  { st with doc := (flushP st).doc, spine := ⟨q, a, .nil⟩ :: (flushP st).spine, data := [], depth := st.depth + 1,
            names := st.names ++ regOne (parentQ st) q a, currDet := false }

/-- inside a section, nothing skipped, the parent can take children, no style has been renamed -/
structure Building (st : St) : Prop where
  parsing : st.parsing = true
  skip : st.skip = 0
  depth : 2 ≤ st.depth
  parent : ParentOK st
  fix : st.fix = []

@[simp] theorem parentQ_appendKids (st : St) (ns : Forest) : parentQ (appendKids st ns) = parentQ st := by
  unfold appendKids parentQ
  cases hs : st.spine with
  | cons f r => simp [Frame.add]
  | nil => simp [hs]

theorem Doc.app_nil (d : Doc) (s : Sec) : d.app s .nil = d := by
  rw [Doc.app, appF_nil_right]; cases s <;> rfl

theorem Doc.app_app (d : Doc) (s : Sec) (a b : Forest) : (d.app s a).app s b = d.app s (appF a b) := by
  cases s <;> simp only [Doc.app, Doc.set, Doc.get, appF_assoc]

theorem docAfter_docAfter (r : Root) (d : Doc) (a b : Forest) :
    docAfter r (docAfter r d a) b = docAfter r d (appF a b) := by
  cases r <;> simp [docAfter, Doc.app_app]

@[simp] theorem Doc.get_app_same (d : Doc) (s : Sec) (a : Forest) : (d.app s a).get s = appF (d.get s) a := by
  cases s <;> rfl

theorem Doc.get_app_other (d : Doc) (s s' : Sec) (a : Forest) (h : s' ≠ s) : (d.app s a).get s' = d.get s' := by
  cases s <;> cases s' <;> first | rfl | exact absurd rfl h

@[simp] theorem Doc.get_putAttrs (d : Doc) (s s' : Sec) (a : List (QName × Str)) : (d.putAttrs s a).get s' = d.get s' := rfl

@[simp] theorem Doc.sattrs_app (d : Doc) (s : Sec) (a : Forest) : (d.app s a).sattrs = d.sattrs := by cases s <;> rfl

theorem appendKids_nil (st : St) : appendKids st .nil = st := by
  unfold appendKids
  split
  · next f r hs => rw [Frame.add, appF_nil_right, ← hs]
  · have : docAfter st.root st.doc .nil = st.doc := by cases st.root <;> simp [docAfter, Doc.app_nil]
    rw [attachToRoot_eq, this]

theorem appendKids_appendKids (st : St) (a b : Forest) :
    appendKids (appendKids st a) b = appendKids st (appF a b) := by
  unfold appendKids
  cases hs : st.spine <;> simp [hs, Frame.add, appF_assoc, docAfter_docAfter]

theorem appendKids_with (st : St) (d : Str) (n : List Str) (c : Bool) (ns : Forest) :
    appendKids { st with data := d, names := n, currDet := c } ns =
      { appendKids st ns with data := d, names := n, currDet := c } := by
  unfold appendKids; cases hs : st.spine <;> simp [hs]

theorem appendKids_eq (st : St) (ns : Forest) :
    appendKids st ns = { st with doc := (appendKids st ns).doc, spine := (appendKids st ns).spine } := by
  unfold appendKids; cases hs : st.spine <;> simp [hs]

theorem appendKids_spine_nil (st : St) (ns : Forest) : (appendKids st ns).spine = [] ↔ st.spine = [] := by
  unfold appendKids; cases hs : st.spine <;> simp [hs]

theorem parentOK_appendKids (st : St) (ns : Forest) (h : ParentOK st) : ParentOK (appendKids st ns) := by
  rw [appendKids_eq]; exact h.imp_left (mt (appendKids_spine_nil st ns).mp)

theorem flushP_eq (st : St) : flushP st = { appendKids st (flushT st.data .nil) with data := [] } := by
  unfold flushP flushT
  split
  · next h => rw [appendKids_nil, ← List.isEmpty_iff.mp h]
  · rfl

theorem flushP_touches (st : St) :
    flushP st = { st with doc := (flushP st).doc, spine := (flushP st).spine, data := [] } := by
  rw [flushP_eq, appendKids_eq]

theorem flushP_parentQ (st : St) : parentQ (flushP st) = parentQ st := by
  rw [flushP_eq]; exact parentQ_appendKids st _
theorem flushP_parentOK (st : St) (h : ParentOK st) : ParentOK (flushP st) := by
  rw [flushP_eq]; exact parentOK_appendKids st _ h

theorem fresh_append (names a b : List Str) : fresh names (a ++ b) = (fresh names a && fresh (names ++ a) b) := by
  induction a generalizing names with
  | nil => simp [fresh]
  | cons n r ih => simp [fresh, ih, Bool.and_assoc]

/-! #### `result`: which fields it writes, and how it is taken apart node by node -/

theorem result_touches (st : St) (f : Forest) :
    result st f =
      { st with doc := (appendKids st (mergeK st.data f).1).doc, spine := (appendKids st (mergeK st.data f).1).spine,
                data := (mergeK st.data f).2, names := st.names ++ regAllF (parentQ st) f,
                currDet := st.currDet && !hasElemF f } := by
  rw [result, appendKids_eq]

theorem parentQ_result (st : St) (f : Forest) : parentQ (result st f) = parentQ st := parentQ_appendKids st _

theorem building_result {st : St} (h : Building st) (f : Forest) : Building (result st f) := by
  rw [result_touches]
  exact ⟨h.parsing, h.skip, h.depth, h.parent.imp_left (mt (appendKids_spine_nil st _).mp), h.fix⟩

theorem result_nil (st : St) : result st .nil = st := by
  rw [result, mergeK, appendKids_nil]
  simp [regAllF, hasElemF]

theorem result_text (st : St) (s : Str) (t : Forest) :
    result { st with data := st.data ++ s } t = result st (.cons (.text s) t) := by
  have := appendKids_with st (st.data ++ s) st.names st.currDet
  simp only [result, this]; rfl

theorem result_cdata (st : St) (s : Str) (t : Forest) :
    result { st with data := st.data ++ s } t = result st (.cons (.cdata s) t) := result_text st s t

/-- `result` may be taken one element at a time -/
theorem result_elem (st : St) (q : QName) (a : List (QName × Str)) (kids t : Forest) :
    result (result st (.cons (.elem q a kids) .nil)) t = result st (.cons (.elem q a kids) t) := by
  rw [result, parentQ_result]
  simp only [result, mergeK, appendKids_with, appendKids_appendKids, appF_flushT, appF_cons, appF_nil_left]
  simp [regAllF, hasElemF]

/-! #### the start tag and the end tag of an element that is built -/

theorem attachHook_fresh {names : List Str} {pq : Option QName} {q : QName} {a : List (QName × Str)}
    (h : fresh names (regOne pq q a) = true) :
    attachHook names [] pq q a = (names ++ regOne pq q a, [], a) := by
  unfold attachHook
  cases pq with
  | none => simp [regOne]
  | some p =>
    dsimp only
    generalize hr : (if q = qStyle then _ else _) = r
    -- `__register_stylename`: a fresh name is appended, nothing is renamed, the attributes stay
    have hreg : r = (names ++ regOne (some p) q a, [], a) := by
      subst hr
      simp only [regOne] at h ⊢
      by_cases hq : q = qStyle
      · cases hl : lookupA aStyleName a with
        | none => simp [hq]
        | some nm =>
          by_cases hp : p = qStyles ∨ p = qAutoStyles
          · have hnm : nm ∉ names := by simpa [hq, hl, hp, fresh] using h
            simp [hq, hp, hnm]
          · simp [hq, hp]
      · simp [hq]
    -- the text:style-name rewrite looks the value up in the rename table, which is empty
    subst hreg
    cases lookupA aTextStyleName a <;> simp [lookupFix]

/-- with a parent that can take children, flushing the pending text in front of a tag cannot fail; `k` is what the
    handler does to the other fields on the way -/
theorem flush_ok (st : St) (hok : ParentOK st) (k : St → St) :
    (if st.data.isEmpty then some (k st)
     else (addToParent st (.cons (.text st.data) .nil)).map (fun s => k { s with data := [] })) =
      some (k (flushP st)) := by
  unfold flushP
  split <;> simp [addToParent_ok st _ hok]

/-- … and `parent.addElement(e)` cannot fail either -/
theorem attach_ok {α : Type} (s : St) (h : ParentOK s) (x : α) :
    (match s.spine, s.root with
      | [], Root.unset => none
      | [], Root.none => none
      | _, _ => some x) = some x := by
  rcases h with h | h | h | ⟨_, h⟩
  · cases hs : s.spine with
    | nil => exact absurd hs h
    | cons f r => rfl
  all_goals (rw [h]; cases s.spine <;> rfl)

/-- an element that is not a section (it is not a child of the root element: `depth ≥ 2` before its start tag) and
    is not a repeated font declaration -/
theorem stepStart_inner {st : St} (h : Building st) (q : QName) (a : List (QName × Str))
    (hnf : fontDeclared st q a = false) (hfr : fresh st.names (regOne (parentQ st) q a) = true) :
    stepStart st q a = some (openE st q a) := by
  have hd2 : decide (st.depth + 1 = 2) = false := by have := h.depth; simp; omega
  have hfl := flush_ok st h.parent fun s => { s with depth := st.depth + 1, parsing := true, fonts := st.fonts }
  have hq : parentQ { flushP st with depth := st.depth + 1, parsing := true, fonts := st.fonts } = parentQ st :=
    flushP_parentQ st
  unfold stepStart openE
  simp only [hd2, Bool.false_and, Bool.false_eq_true, if_false, h.parsing, Bool.not_true, h.skip, hnf,
    bne_self_eq_false, Bool.or_self] at hfl ⊢
  rw [hfl]
  simp only [hq]
  refine (attach_ok _ (flushP_parentOK st h.parent) _).trans ?_
  rw [flushP_touches st]
  simp [h.skip, h.fix, attachHook_fresh hfr]

/-- the end tag of an element that is built, after the flush: the innermost frame is closed and appended to its parent -/
def closeE (st : St) : St :=
  match st.spine with
  | f :: r => { appendKids { st with spine := r } (.cons f.close .nil) with depth := st.depth - 1, currDet := false }
  | [] => st

theorem stepStop_inner {st : St} (h : Building st) (q : QName) (hd : 3 ≤ st.depth) (hs : st.spine ≠ [])
    (hcd : st.currDet = false) : stepStop st q = some (closeE (flushP st)) := by
  have hd1 : decide (st.depth - 1 = 1) = false := by simp; omega
  have hs' : (flushP st).spine ≠ [] := by
    rw [flushP_eq]; exact mt (appendKids_spine_nil st _).mp hs
  have e := flushP_touches st
  have hfl := flush_ok st h.parent fun s => { s with depth := st.depth - 1 }
  unfold stepStop
  simp only [h.parsing, h.skip, hd1, Bool.not_true, Bool.false_eq_true, if_false, bne_self_eq_false,
    Bool.false_and, addToCurr, hcd] at hfl ⊢
  rw [hfl]
  generalize flushP st = s1 at hs' e ⊢
  unfold closeE
  cases hsp : s1.spine with
  | nil => exact absurd hsp hs'
  | cons f r => rw [e]; cases r <;> simp [appendKids]

theorem parentQ_openE (st : St) (q : QName) (a : List (QName × Str)) :
    parentQ (openE st q a) = (parentQ st).map (fun _ => q) := by
  unfold parentQ openE
  cases st.root <;> rfl

theorem building_openE {st : St} (h : Building st) (q : QName) (a : List (QName × Str)) : Building (openE st q a) :=
  ⟨h.parsing, h.skip, by have := h.depth; show (2 : Int) ≤ st.depth + 1; omega, .inl (List.cons_ne_nil _ _), h.fix⟩

theorem elem_closed (st : St) (q : QName) (a : List (QName × Str)) (kids : Forest) :
    closeE (flushP (result (openE st q a) kids)) = result st (.cons (.elem q a kids) .nil) := by
  -- both sides give the parent of `st` the pending text and then the element with children `mergeTF [] kids`
  -- (`mergeTF_eq`: the completed children and the text still pending at the end tag); computed, with `st` taken apart
  simp only [result, parentQ_openE]
  have hm := mergeTF_eq [] kids
  obtain ⟨doc, names, fix, sp, parsing, data, root, spine, depth, skip, fonts, currDet⟩ := st
  simp only [openE, flushP_eq]
  cases spine <;> simp [appendKids, closeE, Frame.add, Frame.close,           -- both sides as updates of the parent
    hm, mergeK, appF_assoc, appF_flushT, docAfter_docAfter,                  -- … by the same forest
    regN, regAllF, hasElemF]                                                 -- … with the same names registered

theorem stepStop_opened {st : St} (h : Building st) (q : QName) (a : List (QName × Str)) (kids : Forest) :
    stepStop (result (openE st q a) kids) q = some (result st (.cons (.elem q a kids) .nil)) := by
  rw [stepStop_inner (building_result (building_openE h q a) kids) q ?_ ?_ rfl, elem_closed]
  · have := h.depth; show (3 : Int) ≤ st.depth + 1; omega
  · exact mt (appendKids_spine_nil _ _).mp (List.cons_ne_nil _ _)

/-! ### balanced events the parser passes over -/

/-- switched off below the root element, or inside a skipped font declaration -/
def Inert (st : St) : Prop := (st.parsing = false ∧ 2 ≤ st.depth) ∨ (st.parsing = true ∧ st.skip ≠ 0)

theorem stepChars_inert (st : St) (s : Str) (h : Inert st) : stepChars st s = st := by
  rcases h with ⟨hp, _⟩ | ⟨_, hk⟩
  · simp [stepChars, hp]
  · simp [stepChars, hk]

/-- a start tag the parser does not act on: it is switched off and the element is no section (not a child of the root
    element, or no trigger), or it is inside a skipped font declaration, or (code as of b40b9f8) the element is a font
    declaration whose name is declared already -/
def Passes (st : St) (q : QName) (a : List (QName × Str)) : Prop :=
  (st.parsing = false ∧ (2 ≤ st.depth ∨ (st.depth = 1 ∧ secOfTrigger q = none))) ∨
  (st.parsing = true ∧ (st.skip ≠ 0 ∨ fontDeclared st q a = true))

theorem stepStart_passes (st : St) (q : QName) (a : List (QName × Str)) (h : Passes st q a) :
    ∃ st', stepStart st q a = some st' ∧ Inert st' ∧ stepStop st' q = some st := by
  rcases h with ⟨hp, hd⟩ | ⟨hp, hk⟩
  · have hsec : (decide (st.depth + 1 = 2) && isTrigger q) = false := by
      rcases hd with hd | ⟨_, hr⟩
      · simp; omega
      · simp [isTrigger, hr]
    refine ⟨{ st with depth := st.depth + 1 }, by simp [stepStart, hsec, hp], .inl ⟨hp, by simp; omega⟩, ?_⟩
    -- what `simp` leaves is `st` with `parsing` replaced by its value
    simp [stepStop, hp]; rw [← hp]
  · have hc : (st.skip != 0 || fontDeclared st q a) = true := by rcases hk with hk | hk <;> simp [hk]
    refine ⟨{ st with depth := st.depth + 1, skip := st.skip + 1 }, by simp [stepStart, hp, hc],
      .inr ⟨hp, by simp⟩, ?_⟩
    simp [stepStop, hp]; rw [← hp]

theorem run_inert : (f : Forest) → (st : St) → Inert st → run st (evF f) = some st
  | .nil, _, _ => rfl
  | .cons (.text s) t, st, h | .cons (.cdata s) t, st, h => by
    simp only [run_evF_cons, run_text, run_cdata, Option.bind_some, stepChars_inert st s h]
    exact run_inert t st h
  | .cons (.elem q a kids) t, st, h => by
    obtain ⟨st', h1, h2, h3⟩ := stepStart_passes st q a (h.imp (And.imp_right .inl) (And.imp_right .inl))
    rw [run_evF_cons, run_elem_eq, h1, Option.bind_some, run_inert kids st' h2, Option.bind_some, h3,
      Option.bind_some]
    exact run_inert t st h

theorem run_elem_passes (st : St) (q : QName) (a : List (QName × Str)) (kids : Forest) (h : Passes st q a) :
    run st (evN (.elem q a kids)) = some st := by
  obtain ⟨st', h1, h2, h3⟩ := stepStart_passes st q a h
  rw [run_elem_eq, h1, Option.bind_some, run_inert kids st' h2, Option.bind_some, h3]

/-! ### office:font-face-decls: fonts a part read earlier has declared are not declared again -/

/-- what is kept of the content of an office:font-face-decls element when `decl` are the style:name values declared
    by the parts read before: a style:font-face whose name is among them is dropped with its subtree, every other node
    is kept — repeats inside the part included -/
def fontDrop (decl : List (Option Str)) : Forest → Forest
  | .nil => .nil
  | .cons (.elem q a k) t =>
    if q = qFontFaceEl ∧ decl.contains (lookupA aStyleName a) = true then fontDrop decl t
    else .cons (.elem q a k) (fontDrop decl t)
  | .cons (.text s) t => .cons (.text s) (fontDrop decl t)
  | .cons (.cdata s) t => .cons (.cdata s) (fontDrop decl t)

theorem fontDrop_nil_decl : (f : Forest) → fontDrop [] f = f
  | .nil => rfl
  | .cons (.text _) t | .cons (.cdata _) t | .cons (.elem _ _ _) t => by simp [fontDrop, fontDrop_nil_decl t]

/-- the font names whose declarations are skipped at this place: those of the parts read earlier directly under
    office:font-face-decls, none anywhere else -/
def declared (st : St) : List (Option Str) :=
  if st.spine = [] ∧ st.root = .sec .fontFace then st.fonts else []

theorem fontDeclared_iff (st : St) (q : QName) (a : List (QName × Str)) :
    fontDeclared st q a = true ↔ q = qFontFaceEl ∧ (declared st).contains (lookupA aStyleName a) = true := by
  unfold fontDeclared declared
  by_cases hs : st.spine = [] <;> by_cases hr : st.root = .sec .fontFace <;> simp [hs, hr]

theorem stepChars_building (st : St) (s : Str) (h : Building st) :
    stepChars st s = { st with data := st.data ++ s } := by simp [stepChars, h.parsing, h.skip]

theorem declared_result (st : St) (f : Forest) : declared (result st f) = declared st := by
  unfold declared; rw [result_touches]; simp only [appendKids_spine_nil]

theorem declared_openE (st : St) (q : QName) (a : List (QName × Str)) : declared (openE st q a) = [] := rfl

/-- **the tree builder, inside a section**: the events of ANY forest append exactly `mergeK` of what is kept of it to
    the parent and leave the trailing character data pending.  Kept is everything, except directly under
    office:font-face-decls the font declarations whose name a part read earlier has declared (`declared`). -/
theorem run_kept : (f : Forest) → (st : St) → Building st →
    fresh st.names (regAllF (parentQ st) (fontDrop (declared st) f)) = true →
    run st (evF f) = some (result st (fontDrop (declared st) f))
  | .nil, st, _, _ => by simp [evF, fontDrop, result_nil]
  | .cons (.text s) t, st, h, hfr | .cons (.cdata s) t, st, h, hfr => by
    simp only [run_evF_cons, run_text, run_cdata, Option.bind_some, stepChars_building st s h, fontDrop,
      ← result_text, ← result_cdata]
    exact run_kept t _ ⟨h.parsing, h.skip, h.depth, h.parent, h.fix⟩ hfr
  | .cons (.elem q a kids) t, st, h, hfr => by
    rw [run_evF_cons]
    by_cases hc : fontDeclared st q a = true
    · -- a font declared already: skipped with its subtree
      rw [run_elem_passes st q a kids (.inr ⟨h.parsing, .inr hc⟩), Option.bind_some]
      simp only [fontDrop, if_pos ((fontDeclared_iff st q a).mp hc)] at hfr ⊢
      exact run_kept t st h hfr
    · simp only [fontDrop, if_neg (mt (fontDeclared_iff st q a).mpr hc), regAllF, regN, fresh_append,
        Bool.and_eq_true, List.append_assoc] at hfr ⊢
      obtain ⟨hf1, hf2, hf3⟩ := hfr
      have hk := run_kept kids _ (building_openE h q a)
        (by rw [declared_openE, fontDrop_nil_decl, parentQ_openE]; exact hf2)
      rw [declared_openE, fontDrop_nil_decl] at hk
      rw [run_elem_eq, stepStart_inner h q a (Bool.eq_false_iff.mpr hc) hf1, Option.bind_some, hk, Option.bind_some,
        stepStop_opened h, Option.bind_some, ← result_elem st q a kids (fontDrop _ t),
        ← declared_result st (.cons (.elem q a kids) .nil)]
      refine run_kept t _ (building_result h _) ?_
      rw [parentQ_result, declared_result]
      simpa [result, regAllF, regN] using hf3

/-- **the tree builder, inside a section**: the events of ANY forest append exactly `mergeK` of the forest to the
    parent and leave the trailing character data pending — anywhere but directly under office:font-face-decls, where
    font declarations repeated from an earlier part are skipped (`run_kept`). -/
theorem run_forest : (f : Forest) → (st : St) → st.parsing = true → st.skip = 0 → 2 ≤ st.depth → ParentOK st →
    st.fix = [] → (st.spine ≠ [] ∨ st.root ≠ .sec .fontFace) → fresh st.names (regAllF (parentQ st) f) = true →
    run st (evF f) = some (result st f)
  | f, st, hp, hsk, hd, hok, hf, hnt, hfr => by
    have hd0 : declared st = [] := by
      unfold declared; rcases hnt with h | h <;> simp [h]
    have := run_kept f st ⟨hp, hsk, hd, hok, hf⟩
    rw [hd0, fontDrop_nil_decl] at this
    exact this hfr

/-! ### sections: routing, and what is ignored -/

theorem secOf_qOfSec (s : Sec) : secOfTrigger (qOfSec s) = some s := by cases s <;> decide

/-- **C04 (routing)**: the document attribute a start tag is routed to — when the element is a child of the root
    element.  office:font-face-decls is taken from every part (code as of b40b9f8; a font name is declared once),
    like the other seven section elements. -/
theorem routing_table :
    secOfTrigger qFontFace = some .fontFace ∧ secOfTrigger qAutoStyles = some .autoStyles ∧
    secOfTrigger qBody = some .body ∧ secOfTrigger qMaster = some .master ∧ secOfTrigger qMeta = some .metaS ∧
    secOfTrigger qScripts = some .scripts ∧ secOfTrigger qSettings = some .settings ∧
    secOfTrigger qStyles = some .styles :=
  ⟨secOf_qOfSec .fontFace, secOf_qOfSec .autoStyles, secOf_qOfSec .body, secOf_qOfSec .master, secOf_qOfSec .metaS,
    secOf_qOfSec .scripts, secOf_qOfSec .settings, secOf_qOfSec .styles⟩

/-- the children a section receives from a section element with content `f`: the merged content — unless `f` has no
    element child at all, in which case its character data is lost with the element LoadParser built and dropped -/
def secContent (f : Forest) : Forest := if hasElemF f then mergeTF [] f else .nil

/-- between the sections: parser off, nothing pending, at the root element -/
def Idle (st : St) : Prop :=
  st.parsing = false ∧ st.data = [] ∧ st.spine = [] ∧ st.currDet = false ∧ st.skip = 0 ∧ st.depth = 1

/-- the part of a section's content that is loaded: everything, except — under office:font-face-decls — font
    declarations whose name was declared before the section started (by a part read earlier) -/
def keepS (d : Doc) (s : Sec) (kids : Forest) : Forest :=
  match s with
  | .fontFace => fontDrop (declaredNames d.fontFace) kids
  | _ => kids

/-- the state after a whole section element -/
def afterSection (st : St) (s : Sec) (a : List (QName × Str)) (kids : Forest) : St :=
  { st with doc := (st.doc.putAttrs s a).app s (secContent (keepS st.doc s kids))
            names := st.names ++ regAllF (some (qOfSec s)) (keepS st.doc s kids)
            root := if hasElemF (keepS st.doc s kids) then .top else .none
            fonts := if s = .fontFace then declaredNames st.doc.fontFace else st.fonts }

theorem settle_nil (st : St) (h : st.spine = []) : settle st = st := by simp [settle, h, collapse]

theorem ite_some_eq {α : Type} {c : Prop} [Decidable c] {a b : α} {r : Option α}
    (h : (if c then some a else r) = some b) : (c ∧ a = b) ∨ r = some b := by
  by_cases hc : c
  · rw [if_pos hc] at h; exact .inl ⟨hc, Option.some.inj h⟩
  · rw [if_neg hc] at h; exact .inr h

theorem secOfTrigger_some {q : QName} {s : Sec} (h : secOfTrigger q = some s) : q = qOfSec s := by
  unfold secOfTrigger at h
  -- one `if` at a time (`split at h` on the chain of eight compares the name literals: some hundred times dearer)
  repeat (obtain ⟨e, rfl⟩ | h := ite_some_eq h; · exact e)
  cases h

theorem qOfSec_fontFace (s : Sec) : (qOfSec s = qFontFace) = (s = .fontFace) := by cases s <;> decide

/-- the parser after the start tag of a section element -/
def openSec (st : St) (s : Sec) (a : List (QName × Str)) : St :=
  { st with doc := st.doc.putAttrs s a, depth := 2, parsing := true, root := .sec s, spine := [], currDet := true,
            fonts := if s = .fontFace then declaredNames st.doc.fontFace else st.fonts }

theorem stepStart_section (st : St) (s : Sec) (a : List (QName × Str)) (hi : Idle st) :
    stepStart st (qOfSec s) a = some (openSec st s a) := by
  obtain ⟨hp, hd, hsp, hcd, hsk, hdp⟩ := hi
  have hnf : fontDeclared st (qOfSec s) a = false := by
    have : qOfSec s ≠ qFontFaceEl := by cases s <;> decide
    simp [fontDeclared, this]
  unfold stepStart
  simp [openSec, hdp, isTrigger, secOf_qOfSec, qOfSec_fontFace,  -- depth 1 and a trigger: a section starts
    hsk, hnf, hd,                                                -- nothing is skipped, nothing is pending
    settle, collapse, hsp]                                       -- no open element to give up

theorem declared_openSec (st : St) (s : Sec) (a : List (QName × Str)) (kids : Forest) :
    fontDrop (declared (openSec st s a)) kids = keepS st.doc s kids := by
  cases s <;> simp [declared, openSec, keepS, fontDrop_nil_decl]

/-- the parser at the end tag of a section element whose (kept) content was `K` -/
theorem stepStop_section (st : St) (s : Sec) (a : List (QName × Str)) (K : Forest) (hi : Idle st) (hf : st.fix = []) :
    stepStop (result (openSec st s a) K) (qOfSec s) =
      some { st with doc := (st.doc.putAttrs s a).app s (secContent K)
                     names := st.names ++ regAllF (some (qOfSec s)) K
                     root := if hasElemF K then .top else .none
                     fonts := if s = .fontFace then declaredNames st.doc.fontFace else st.fonts } := by
  obtain ⟨hp, hd, hsp, hcd, hsk, hdp⟩ := hi
  have htr : isTrigger (qOfSec s) = true := by simp [isTrigger, secOf_qOfSec]
  simp only [openSec, result]
  have hK := mergeTF_eq [] K
  have hk1 := mergeK_noElem [] K
  cases st
  subst hp hd hsp hcd hf hsk hdp
  generalize mergeK [] K = m at hK hk1 ⊢
  obtain ⟨k1, k2⟩ := m
  -- by cases on whether the content has an element child, and on whether character data is pending
  cases he : hasElemF K with
  | true =>
    -- `curr` is an element of the content: the pending text `k2` is appended to the section behind `k1`, which
    -- together are `mergeTF [] K` (`hK`); the section is left for `.top`
    cases k2 <;> simp [stepStop, appendKids, attachToRoot, parentQ, he, htr, secContent, hK, flushT, addToCurr,
      addToParent, Doc.app_app]
  | false =>
    -- character data only: `curr` is still the element built for the section start tag, which is dropped and takes
    -- the text with it; no node was completed (`k1` is empty) and no parent is left (root `.none`)
    obtain rfl : k1 = .nil := hk1 he
    cases k2 <;> simp [stepStop, appendKids, attachToRoot, parentQ, he, htr, secContent, addToCurr]

/-- **C04 (one section)**: a section element — a child of the root element — met while the parser is idle puts
    `secContent` of its content (under office:font-face-decls: of what `keepS` keeps) into the section it is routed
    to, puts its attributes `a` on the section object (`Doc.putAttrs`: later values overwrite), registers the style
    names, and leaves the parser idle again.  No hypothesis on the names of the elements inside. -/
theorem run_section (st : St) (q : QName) (a : List (QName × Str)) (kids : Forest) (s : Sec)
    (hi : Idle st) (hf : st.fix = []) (hsec : secOfTrigger q = some s)
    (hfr : fresh st.names (regAllF (some (qOfSec s)) (keepS st.doc s kids)) = true) :
    run st (evN (.elem q a kids)) = some (afterSection st s a kids) := by
  obtain rfl := secOfTrigger_some hsec
  have ⟨_, _, _, _, hsk, _⟩ := hi
  have hb : Building (openSec st s a) := ⟨rfl, hsk, Int.le_refl 2, .inr (.inr (.inr ⟨s, rfl⟩)), hf⟩
  have hk := run_kept kids _ hb (by rw [declared_openSec]; exact hfr)
  rw [declared_openSec] at hk
  -- start tag, content, end tag
  rw [run_elem_eq, stepStart_section st s a hi, Option.bind_some, hk, Option.bind_some,
    stepStop_section st s a _ hi hf]
  rfl

/-! ### a whole part -/

/-- what one routed section element contributes to the document -/
def stepSec (l : Loaded) (s : Sec) (a : List (QName × Str)) (kids : Forest) : Loaded :=
  ⟨(l.doc.putAttrs s a).app s (secContent (keepS l.doc s kids)),
   l.names ++ regAllF (some (qOfSec s)) (keepS l.doc s kids), l.fix⟩

/-- the only requirement on a part: the style:style names it registers (direct children of office:styles /
    office:automatic-styles elements, wherever they occur) are fresh — no rename by `__register_stylename` (C11) -/
def partKidsOK (l : Loaded) : Forest → Bool
  | .nil => true
  | .cons (.text _) t => partKidsOK l t
  | .cons (.cdata _) t => partKidsOK l t
  | .cons (.elem q a kids) t =>
    match secOfTrigger q with
    | some s => fresh l.names (regAllF (some (qOfSec s)) (keepS l.doc s kids)) && partKidsOK (stepSec l s a kids) t
    | none => partKidsOK l t

/-- **what a part contributes to the document** (closed form): every child of the root element that is a section
    element appends `secContent` of its (kept) content to its section and puts its attributes on the section object;
    every other child of the root element is skipped -/
def loadKids (l : Loaded) : Forest → Loaded
  | .nil => l
  | .cons (.text _) t => loadKids l t
  | .cons (.cdata _) t => loadKids l t
  | .cons (.elem q a kids) t =>
    match secOfTrigger q with
    | some s => loadKids (stepSec l s a kids) t
    | none => loadKids l t

theorem afterSection_idle (st : St) (s : Sec) (a : List (QName × Str)) (kids : Forest) (h : Idle st) :
    Idle (afterSection st s a kids) := h

theorem run_partKids : (f : Forest) → (st : St) → Idle st → st.fix = [] →
    partKidsOK ⟨st.doc, st.names, st.fix⟩ f = true →
    ∃ st', run st (evF f) = some st' ∧ Idle st' ∧
      (⟨st'.doc, st'.names, st'.fix⟩ : Loaded) = loadKids ⟨st.doc, st.names, st.fix⟩ f
  | .nil, st, hi, _, _ => ⟨st, rfl, hi, rfl⟩
  | .cons (.text s) t, st, hi, hf, hok | .cons (.cdata s) t, st, hi, hf, hok => by
    have ⟨hp, _⟩ := hi
    have : stepChars st s = st := by simp [stepChars, hp]
    simp only [run_evF_cons, run_text, run_cdata, Option.bind_some, this]
    exact run_partKids t st hi hf hok
  | .cons (.elem q a kids) t, st, hi, hf, hok => by
    have ⟨hp, _, _, _, _, hdp⟩ := hi
    rw [run_evF_cons]
    cases hr : secOfTrigger q with
    | some s =>
      simp only [partKidsOK, hr, Bool.and_eq_true] at hok
      rw [run_section st q a kids s hi hf hr hok.1, Option.bind_some]
      simp only [loadKids, hr]
      exact run_partKids t _ (afterSection_idle st s a kids hi) hf hok.2
    | none =>
      simp only [partKidsOK, hr] at hok
      rw [run_elem_passes st q a kids (.inl ⟨hp, .inr ⟨hdp, hr⟩⟩), Option.bind_some]
      simp only [loadKids, hr]
      exact run_partKids t st hi hf hok

/-- **C04 (build_events)**: LoadParser on the event stream of a whole part `<root …> children </root>`.
    For every part — any root element, any children, any nesting inside them — whose registered style names are fresh
    (`partKidsOK`), the run succeeds and the document afterwards is `loadKids` of the children: each child of the root
    element that is a section element appended `secContent` of its content to its section and put its attributes on
    the section object; the root element itself, white space between the sections and every other child of the root
    element contributed nothing.  (`sp`, Python's `_parsing == "styles.xml"`, is not consulted: office:font-face-decls is
    read from every part.) -/
theorem build_events (sp : Bool) (l : Loaded) (rq : QName) (ra : List (QName × Str)) (secs : Forest)
    (hf : l.fix = []) (hok : partKidsOK l secs = true) :
    loadPart sp l (evN (.elem rq ra secs)) = some (loadKids l secs) := by
  unfold loadPart
  have hstart : stepStart { doc := l.doc, names := l.names, fix := l.fix, stylesPart := sp } rq ra =
      some { doc := l.doc, names := l.names, fix := l.fix, stylesPart := sp, depth := 1 } := rfl
  obtain ⟨st', hk, ⟨hp, _, hsp, _, _, hdp⟩, hl⟩ :=
    run_partKids secs { doc := l.doc, names := l.names, fix := l.fix, stylesPart := sp, depth := 1 }
      ⟨rfl, rfl, rfl, rfl, rfl, rfl⟩ hf hok
  have hstop : stepStop st' rq = some { st' with depth := 0 } := by simp [stepStop, hp, hdp]
  rw [run_elem_eq, hstart, Option.bind_some, hk, Option.bind_some, hstop]
  simp only [settle_nil { st' with depth := 0 } hsp]
  exact congrArg some hl

/-! ### canonical forests: what a parser delivers is rebuilt exactly -/

def startsChar : Forest → Bool
  | .cons (.text _) _ => true
  | .cons (.cdata _) _ => true
  | _ => false

/-- no CDATA node, no empty text node, no two adjacent text nodes — at every level -/
def canonB : Forest → Bool
  | .nil => true
  | .cons (.text s) t => !s.isEmpty && !startsChar t && canonB t
  | .cons (.cdata _) _ => false
  | .cons (.elem _ _ k) t => canonB k && canonB t

def prependT (acc : Str) : Forest → Forest
  | .cons (.text s) t => .cons (.text (acc ++ s)) t
  | f => flushT acc f

theorem prependT_nil (f : Forest) : prependT [] f = f := by
  cases f with
  | nil => rfl
  | cons h t => cases h <;> rfl

theorem mergeTF_canon : (f : Forest) → (acc : Str) → canonB f = true → mergeTF acc f = prependT acc f
  | .nil, acc, _ => rfl
  | .cons (.cdata _) _, _, h => nomatch h
  | .cons (.elem q a k) t, acc, h => by
    simp only [canonB, Bool.and_eq_true] at h
    rw [mergeTF, mergeTF_canon k [] h.1, mergeTF_canon t [] h.2, prependT_nil, prependT_nil]
    rfl
  | .cons (.text s) t, acc, h => by
    simp only [canonB, Bool.and_eq_true, Bool.not_eq_true'] at h
    obtain ⟨⟨hs, hst⟩, hc⟩ := h
    have hne : (acc ++ s).isEmpty = false := by simp_all
    -- `t` does not start with character data, so the accumulated text becomes a node in front of it
    have ht : prependT (acc ++ s) t = flushT (acc ++ s) t := by
      cases t with
      | nil => rfl
      | cons n _ => cases n <;> first | rfl | simp [startsChar] at hst
    rw [mergeTF, mergeTF_canon t _ hc, ht]; simp [prependT, flushT, hne]

/-- **a canonical forest is rebuilt as it is** (mixed content in order, white-space-only text kept, nothing
    stripped, nothing merged because nothing is adjacent) -/
theorem mergeTF_canon_id (f : Forest) (h : canonB f = true) : mergeTF [] f = f := by
  rw [mergeTF_canon f [] h, prependT_nil]

theorem canonB_flushT (acc : Str) (f : Forest) (hf : canonB f = true) (hs : startsChar f = false) :
    canonB (flushT acc f) = true := by
  cases acc with
  | nil => exact hf
  | cons c r => simp [flushT, canonB, hf, hs]

theorem canonB_canonTF (acc : Str) (f : Forest) : canonB (canonTF acc f) = true := by
  fun_induction canonTF acc f with
  | case1 acc => exact canonB_flushT acc .nil rfl rfl
  | case2 acc s t ih | case3 acc s t ih => exact ih
  | case4 acc q a kids t ih1 ih2 => exact canonB_flushT acc _ (by simp [canonB, ih1, ih2]) rfl

theorem hasElemF_flushT (acc : Str) (f : Forest) : hasElemF (flushT acc f) = hasElemF f := by
  unfold flushT; split <;> rfl

theorem hasElemF_canonTF (acc : Str) (f : Forest) : hasElemF (canonTF acc f) = hasElemF f := by
  fun_induction canonTF acc f with
  | case1 acc => exact hasElemF_flushT acc .nil
  | case2 acc s t ih | case3 acc s t ih => exact ih
  | case4 acc q a kids t ih1 ih2 => exact hasElemF_flushT acc _

/-- what `load` makes of a section that `save` wrote with content `f` -/
def lsec (f : Forest) : Forest := secContent (canonTF [] f)

/-- … is the canonical form of `f`; only a section whose whole content is character data loses it -/
theorem lsec_eq (f : Forest) : lsec f = if hasElemF f then canonTF [] f else .nil := by
  simp [lsec, secContent, hasElemF_canonTF, mergeTF_canon_id _ (canonB_canonTF [] f)]

/-! ### the composite: load what save wrote -/

theorem canonTF_cons_elem (q : QName) (a : List (QName × Str)) (k t : Forest) :
    canonTF [] (.cons (.elem q a k) t) = .cons (.elem q (huAttrsQ a) (canonTF [] k)) (canonTF [] t) := rfl

theorem canonTF_nil : canonTF [] .nil = .nil := rfl

theorem lsec_nil : lsec .nil = .nil := rfl

def allSecs : List Sec := [.autoStyles, .body, .fontFace, .master, .metaS, .scripts, .settings, .styles]
/-- the section objects of the document carry no attributes of their own (true of every document built through the
    API: none of the eight section elements has an attribute in the schema) -/
def noSecAttrs (d : Doc) : Bool := allSecs.all (fun s => (d.sattrs s).isEmpty)

theorem noSecAttrs_at (d : Doc) (h : noSecAttrs d = true) (s : Sec) : d.sattrs s = [] :=
  List.isEmpty_iff.mp (List.all_eq_true.mp h s (by cases s <;> decide))

/-- a section element written without attributes -/
def secEl0 (s : Sec) (f : Forest) : Node := .elem (qOfSec s) [] f
/-- … and one that is written only if it has children -/
def ifKids0 (s : Sec) (f : Forest) : Forest :=
  match f with
  | .nil => .nil
  | f => .cons (secEl0 s f) .nil

theorem secEl_eq (d : Doc) (h : noSecAttrs d = true) (s : Sec) (f : Forest) : secEl d s f = secEl0 s f := by
  simp [secEl, secEl0, noSecAttrs_at d h s]
theorem ifKids_eq (d : Doc) (h : noSecAttrs d = true) (s : Sec) (f : Forest) : ifKids d s f = ifKids0 s f := by
  cases f <;> simp [ifKids, ifKids0, secEl_eq d h]
theorem autoEl_eq (f : Forest) : autoEl f = secEl0 .autoStyles f := rfl

theorem putAttrs_nil_doc (d : Doc) (s : Sec) : d.putAttrs s [] = d := by
  have : (fun s' => if s' = s then putAttrs (d.sattrs s) [] else d.sattrs s') = d.sattrs := by
    funext s'; by_cases h : s' = s <;> simp [h, putAttrs]
  simp [Doc.putAttrs, this]

theorem keepS_nil (d : Doc) (s : Sec) : keepS d s .nil = .nil := by cases s <;> rfl

/-- into a section that is still empty everything is loaded -/
theorem keepS_of_empty (d : Doc) (s : Sec) (kids : Forest) (h : d.get s = .nil) : keepS d s kids = kids := by
  cases s with
  | fontFace => rw [keepS, show d.fontFace = .nil from h]; exact fontDrop_nil_decl kids
  | _ => rfl

theorem stepSec_nil (l : Loaded) (s : Sec) : stepSec l s [] .nil = l := by
  simp [stepSec, keepS_nil, putAttrs_nil_doc, secContent, hasElemF, Doc.app_nil, regAllF]

/-- the freshness condition of one section -/
def okStep (l : Loaded) (s : Sec) (f : Forest) : Bool := fresh l.names (regAllF (some (qOfSec s)) (keepS l.doc s f))

/-- the children `f` of a part's root element are accepted after `l` and leave the document `l'` -/
def LoadsTo (l : Loaded) (f : Forest) (l' : Loaded) : Prop := partKidsOK l f = true ∧ loadKids l f = l'

theorem loadsTo_nil (l : Loaded) : LoadsTo l (canonTF [] .nil) l := ⟨rfl, rfl⟩

theorem loadsTo_secEl0 {l l' : Loaded} {s : Sec} {f g : Forest} (ho : okStep l s (canonTF [] f) = true)
    (h : LoadsTo (stepSec l s [] (canonTF [] f)) (canonTF [] g) l') : LoadsTo l (canonTF [] (.cons (secEl0 s f) g)) l' := by
  simp only [okStep] at ho
  simpa [LoadsTo, secEl0, canonTF_cons_elem, partKidsOK, loadKids, secOf_qOfSec, huAttrsQ, ho] using h

theorem loadsTo_ifKids0 {l l' : Loaded} {s : Sec} {f g : Forest} (ho : okStep l s (canonTF [] f) = true)
    (h : LoadsTo (stepSec l s [] (canonTF [] f)) (canonTF [] g) l') : LoadsTo l (canonTF [] (appF (ifKids0 s f) g)) l' := by
  cases f with
  | nil => simpa [ifKids0, canonTF_nil, stepSec_nil] using h
  | cons n t => exact loadsTo_secEl0 ho h

theorem trig_roots : isTrigger qDocContent = false ∧ isTrigger qDocStyles = false ∧ isTrigger qDocMeta = false ∧
    isTrigger qDocSettings = false := by decide

/-- the XML leg's hypothesis (C02's): an admissible namespace table that covers the four trees -/
structure XmlOK (tbl : NsTable) (tv : Str) (d : Doc) (uc us : Forest) : Prop where
  table : TableOK tbl
  clean : NsClean tbl
  content : TreeOK tbl (contentTree d uc)
  styles : TreeOK tbl (stylesTree d us)
  metaT : TreeOK tbl (metaTree tv d)
  settings : TreeOK tbl (settingsTree d)

theorem XmlOK.parses {tbl : NsTable} {tv : Str} {d : Doc} {uc us : Forest} (hx : XmlOK tbl tv d uc us)
    {q : QName} {a : List (QName × Str)} {k : Forest} (h : TreeOK tbl (.elem q a k)) :
    parseDoc (render tbl (.elem q a k)) = some (canonT (.elem q a k)) :=
  parseDoc_render tbl q a k hx.table hx.clean h

/-! the document after each section element of the saved package has been read, in the order `load` meets them:
    `S` settings.xml, `M` meta.xml, `C1`–`C3`, `C` content.xml (scripts, font declarations, automatic styles, body),
    `Y1`–`Y3` styles.xml (font declarations, styles, automatic styles) and, behind the master styles, `loadedOf` -/
def afterS (d : Doc) : Loaded := stepSec {} .settings [] (canonTF [] d.settings)
def afterM (tv : Str) (d : Doc) : Loaded := stepSec (afterS d) .metaS [] (canonTF [] (normGen tv d.metaS))
def afterC1 (tv : Str) (d : Doc) : Loaded := stepSec (afterM tv d) .scripts [] (canonTF [] d.scripts)
def afterC2 (tv : Str) (d : Doc) : Loaded := stepSec (afterC1 tv d) .fontFace [] (canonTF [] d.fontFace)
def afterC3 (tv : Str) (d : Doc) (uc : Forest) : Loaded := stepSec (afterC2 tv d) .autoStyles [] (canonTF [] uc)
def afterC (tv : Str) (d : Doc) (uc : Forest) : Loaded := stepSec (afterC3 tv d uc) .body [] (canonTF [] d.body)
def afterY1 (tv : Str) (d : Doc) (uc : Forest) : Loaded := stepSec (afterC tv d uc) .fontFace [] (canonTF [] d.fontFace)
def afterY2 (tv : Str) (d : Doc) (uc : Forest) : Loaded := stepSec (afterY1 tv d uc) .styles [] (canonTF [] d.styles)
def afterY3 (tv : Str) (d : Doc) (uc us : Forest) : Loaded := stepSec (afterY2 tv d uc) .autoStyles [] (canonTF [] us)
/-- what `load(save(d))` is -/
def loadedOf (tv : Str) (d : Doc) (uc us : Forest) : Loaded := stepSec (afterY3 tv d uc us) .master [] (canonTF [] d.master)

/-- the load leg's hypothesis, a Boolean:
    * the style:style names registered while loading — direct children of office:styles / office:automatic-styles
      elements, in the order the ten sections are read — are pairwise distinct (`okStep`: no rename by
      `__register_stylename`, C11's subject);
    * the section objects carry no attributes of their own (`noSecAttrs`: such attributes do survive a load —
      `run_section` — but `office:automatic-styles` is written as a fresh element).
    There is no hypothesis about section elements nested inside a section: the content of a section may be ANY forest
    (code as of e0e65e8 / b40b9f8). -/
def LoadOK (tv : Str) (d : Doc) (uc us : Forest) : Bool :=
  noSecAttrs d &&
  okStep {} .settings (canonTF [] d.settings) && okStep (afterS d) .metaS (canonTF [] (normGen tv d.metaS)) &&
  okStep (afterM tv d) .scripts (canonTF [] d.scripts) && okStep (afterC1 tv d) .fontFace (canonTF [] d.fontFace) &&
  okStep (afterC2 tv d) .autoStyles (canonTF [] uc) && okStep (afterC3 tv d uc) .body (canonTF [] d.body) &&
  okStep (afterC tv d uc) .fontFace (canonTF [] d.fontFace) && okStep (afterY1 tv d uc) .styles (canonTF [] d.styles) &&
  okStep (afterY2 tv d uc) .autoStyles (canonTF [] us) && okStep (afterY3 tv d uc us) .master (canonTF [] d.master)

/-- `__loadxmlparts` on the saved package: settings.xml only if it was written -/
def loadSaved (ws : Bool) (eS eM eC eY : List Event) : Option Loaded :=
  loadParts {} ((if ws then [(sSettingsXml, eS)] else []) ++ [(sMetaXml, eM), (sContentXml, eC), (sStylesXml, eY)])

/-- the statement of C04 at model level, for given trees: each written part is accepted by the reference parser,
    and LoadParser, fed the event stream of what the parser returns under ANY chunking, yields `loadedOf` -/
def LoadsBack (tbl : NsTable) (tv : Str) (d : Doc) (uc us : Forest) : Prop :=
  ∃ tS tM tC tY : Node,
    parseDoc (render tbl (settingsTree d)) = some tS ∧ parseDoc (render tbl (metaTree tv d)) = some tM ∧
    parseDoc (render tbl (contentTree d uc)) = some tC ∧ parseDoc (render tbl (stylesTree d us)) = some tY ∧
    ∀ eS eM eC eY : List Event, Chunked (evN tS) eS → Chunked (evN tM) eM → Chunked (evN tC) eC → Chunked (evN tY) eY →
      loadSaved (writesSettings d) eS eM eC eY = some (loadedOf tv d uc us)

/-- **C04, FULL STATEMENT**: every document that can be written is loaded back.  `load_save_partial` proves it under
    `LoadOK`; without that hypothesis neither it nor its negation is proved (where `load` renames a style, C11,
    `loadedOf` does not describe what it builds). -/
def FullStatement : Prop :=
  ∀ (tbl : NsTable) (tv : Str) (d : Doc) (uc us : Forest), XmlOK tbl tv d uc us → LoadsBack tbl tv d uc us

theorem loadPart_chunked (sp : Bool) (l : Loaded) {evs evs' : List Event} (h : Chunked evs evs') :
    loadPart sp l evs' = loadPart sp l evs := by
  unfold loadPart; rw [build_chunk_invariant evs evs' h]

theorem okStep_fix (l : Loaded) (s : Sec) (a : List (QName × Str)) (f : Forest) : (stepSec l s a f).fix = l.fix := rfl

/-- a part that `save` wrote, read back under any chunking -/
theorem loadPart_saved {sp : Bool} {l l' : Loaded} {rq : QName} {ra : List (QName × Str)} {kids : Forest}
    {evs : List Event} (hf : l.fix = []) (h : LoadsTo l (canonTF [] kids) l')
    (hc : Chunked (evN (canonT (.elem rq ra kids))) evs) : loadPart sp l evs = some l' := by
  rw [loadPart_chunked _ _ hc, canonT, build_events sp l _ _ _ hf h.1, h.2]

/-- **C04 (load_save, partial)**: for every document `d` (eight sections, ANY content), every selection `uc` / `us` of
    automatic styles written to content.xml / styles.xml and every admissible namespace table: what `save` writes is
    accepted by the reference parser, and `load` — LoadParser over the SAX events of the parsed parts, character data
    chunked in any way, parts in the order settings, meta, content, styles — yields `loadedOf`: each section's
    canonical form appended to its section (`stepSec`), meta with exactly one generator (`normGen`), the written
    automatic styles, every font name declared once (`loadedOf_doc` gives the sections explicitly).
    Restrictions (`LoadOK`): no style-name collision (C11); no attributes on the section objects.
    Not in the model: attribute converters (values are fixed points: C15), which automatic styles are written (C10:
    `uc`, `us` are parameters), the zip container, pictures and sub-documents (C03/C16 and the oracle), expat
    (trusted to deliver the events of the infoset the reference parser computes). -/
theorem load_save_partial (tbl : NsTable) (tv : Str) (d : Doc) (uc us : Forest)
    (hx : XmlOK tbl tv d uc us) (hl : LoadOK tv d uc us = true) : LoadsBack tbl tv d uc us := by
  simp only [LoadOK, Bool.and_eq_true] at hl
  obtain ⟨⟨⟨⟨⟨⟨⟨⟨⟨⟨hsa, kSettings⟩, kMeta⟩, kScripts⟩, kFontsC⟩, kAutoC⟩, kBody⟩, kFontsY⟩, kStyles⟩, kAutoY⟩,
    kMaster⟩ := hl
  refine ⟨_, _, _, _, hx.parses hx.settings, hx.parses hx.metaT, hx.parses hx.content, hx.parses hx.styles, ?_⟩
  intro eS eM eC eY cS cM cC cY
  simp only [secEl_eq d hsa, ifKids_eq d hsa, autoEl_eq] at cS cM cC cY
  rw [← appF_nil_right (ifKids0 .master d.master)] at cY
  -- for either value of the flag `loadParts` hands to `loadPart` (no step reads it)
  have pS (sp : Bool) : loadPart sp {} eS = some (afterS d) :=
    loadPart_saved rfl (loadsTo_secEl0 kSettings (loadsTo_nil _)) cS
  have pM (sp : Bool) : loadPart sp (afterS d) eM = some (afterM tv d) :=
    loadPart_saved rfl (loadsTo_secEl0 kMeta (loadsTo_nil _)) cM
  have pC (sp : Bool) : loadPart sp (afterM tv d) eC = some (afterC tv d uc) :=
    loadPart_saved rfl (loadsTo_ifKids0 kScripts (loadsTo_ifKids0 kFontsC (loadsTo_secEl0 kAutoC
      (loadsTo_secEl0 kBody (loadsTo_nil _))))) cC
  have pY (sp : Bool) : loadPart sp (afterC tv d uc) eY = some (loadedOf tv d uc us) :=
    loadPart_saved rfl (loadsTo_ifKids0 kFontsY (loadsTo_secEl0 kStyles (loadsTo_secEl0 kAutoY
      (loadsTo_ifKids0 kMaster (loadsTo_nil _))))) cY
  unfold loadSaved writesSettings
  cases hset : d.settings with
  | cons _ _ => simp only [if_true, List.cons_append, List.nil_append, loadParts, pS, pM, pC, pY]
  | nil =>
    -- no settings.xml: nothing would have been read from it
    have hS0 : afterS d = {} := by simp [afterS, hset, canonTF_nil, stepSec_nil]
    rw [hS0] at pM
    simp only [Bool.false_eq_true, if_false, List.nil_append, loadParts, pM, pC, pY]

/-! #### the sections of the loaded document, explicitly -/

/-- all nodes are style:font-face elements (what office:font-face-decls may hold) -/
def onlyFonts : Forest → Bool
  | .nil => true
  | .cons (.elem q _ _) t => decide (q = qFontFaceEl) && onlyFonts t
  | .cons _ _ => false

theorem declaredNames_appF : (x y : Forest) → declaredNames (appF x y) = declaredNames x ++ declaredNames y
  | .nil, _ => rfl
  | .cons (.text _) t, y | .cons (.cdata _) t, y => declaredNames_appF t y
  | .cons (.elem _ _ _) t, y => by simp [declaredNames, declaredNames_appF t y]

theorem declaredNames_flushT (acc : Str) (f : Forest) : declaredNames (flushT acc f) = declaredNames f := by
  unfold flushT; split <;> rfl

theorem declaredNames_mergeTF (acc : Str) (f : Forest) : declaredNames (mergeTF acc f) = declaredNames f := by
  fun_induction mergeTF acc f with
  | case1 acc => exact declaredNames_flushT acc .nil
  | case2 acc s t ih | case3 acc s t ih => exact ih
  | case4 acc q a kids t ih1 ih2 => simp [declaredNames_flushT, declaredNames, ih2]

theorem declaredNames_noElem : (f : Forest) → hasElemF f = false → declaredNames f = []
  | .nil, _ => rfl
  | .cons (.text _) t, h | .cons (.cdata _) t, h => declaredNames_noElem t h
  | .cons (.elem _ _ _) _, h => nomatch h

theorem declaredNames_secContent (f : Forest) : declaredNames (secContent f) = declaredNames f := by
  unfold secContent
  cases h : hasElemF f
  · simp [declaredNames_noElem f h, declaredNames]
  · simp [declaredNames_mergeTF]

theorem fontDrop_all_declared : (g : Forest) → (decl : List (Option Str)) → onlyFonts g = true →
    (∀ n ∈ declaredNames g, n ∈ decl) → fontDrop decl g = .nil
  | .nil, _, _, _ => rfl
  | .cons (.text _) _, _, h, _ | .cons (.cdata _) _, _, h, _ => nomatch h
  | .cons (.elem q a k) t, decl, h, hn => by
    simp only [onlyFonts, Bool.and_eq_true, decide_eq_true_eq] at h
    have h1 : decl.contains (lookupA aStyleName a) = true := by
      simpa using hn (lookupA aStyleName a) (by simp [declaredNames])
    simp only [fontDrop, h.1, h1, and_self, if_true]
    exact fontDrop_all_declared t decl h.2 (fun n hm => hn n (by simp [declaredNames, hm]))

/-- reading the same declarations a second time (styles.xml after content.xml) adds nothing — whatever repeats the
    list has: every name of it was declared by the first reading -/
theorem fonts_second (ff : Forest) (h : onlyFonts (canonTF [] ff) = true) :
    fontDrop (declaredNames (lsec ff)) (canonTF [] ff) = .nil := by
  apply fontDrop_all_declared _ _ h
  intro n hn
  rw [lsec, declaredNames_secContent]
  exact hn

/-- what `load(save(d))` holds: every section in canonical form (`lsec`), the generator normalised, the automatic
    styles that were written (content.xml's first, then styles.xml's), the font declarations once -/
def expected (tv : Str) (d : Doc) (uc us : Forest) : Doc :=
  { settings := lsec d.settings, metaS := lsec (normGen tv d.metaS), scripts := lsec d.scripts,
    autoStyles := appF (lsec uc) (lsec us), body := lsec d.body, fontFace := lsec d.fontFace,
    styles := lsec d.styles, master := lsec d.master }

/-- **the sections of `load(save(d))`**, explicitly.  Residual hypothesis `onlyFonts`: office:font-face-decls holds
    style:font-face elements only — anything else in it (white space, foreign elements) is read from BOTH parts and
    would appear twice.  Font declarations may repeat a name: content.xml's list is read entirely, styles.xml's copy
    of it is skipped entirely. -/
theorem loadedOf_doc (tv : Str) (d : Doc) (uc us : Forest) (hfo : onlyFonts (canonTF [] d.fontFace) = true) :
    (loadedOf tv d uc us).doc = expected tv d uc us := by
  have h2 := fonts_second d.fontFace hfo
  simp only [loadedOf, afterY3, afterY2, afterY1, afterC, afterC3, afterC2, afterC1, afterM, afterS, stepSec,
    putAttrs_nil_doc, keepS]
  simp only [Doc.app, Doc.set, Doc.get, declaredNames, appF_nil_left, fontDrop_nil_decl]
  have e1 : secContent (canonTF [] d.fontFace) = lsec d.fontFace := rfl
  simp only [e1, h2]
  simp [expected, lsec, secContent, hasElemF]

/-! ### the canonical form is a fixed point of the parser's normalisation (needed for "second generation")

  `hu` is the writer's character filter (Xml/Escape.lean), `canonTF` / `canonT` the form the reference parser returns
  (Xml/NsRoundTrip.lean). -/

theorem hu_idem (c : Cp) : hu (hu c) = hu c := by
  unfold hu
  split
  · exact ite_self _  -- a filtered character has become 0xFFFD, which stays 0xFFFD whether filtered or not
  · rfl

theorem map_hu_idem (s : Str) : (s.map hu).map hu = s.map hu := by
  simp [hu_idem]

theorem huAttrsQ_idem (a : List (QName × Str)) : huAttrsQ (huAttrsQ a) = huAttrsQ a := by
  induction a with
  | nil => rfl
  | cons x r ih => simp [huAttrsQ, ih, hu_idem]

mutual
/-- every string of the tree filtered through `hu` -/
def huN : Node → Node
  | .text s => .text (s.map hu)
  | .cdata s => .cdata (s.map hu)
  | .elem q a k => .elem q (huAttrsQ a) (huF k)
def huF : Forest → Forest
  | .nil => .nil
  | .cons h t => .cons (huN h) (huF t)
end

theorem huF_flushT (acc : Str) (f : Forest) : huF (flushT acc f) = flushT (acc.map hu) (huF f) := by
  cases acc <;> rfl

theorem huF_canonTF (acc : Str) (f : Forest) (ha : acc.map hu = acc) : huF (canonTF acc f) = canonTF acc f := by
  fun_induction canonTF acc f with
  | case1 acc => simp [huF_flushT, ha, huF]
  | case2 acc s t ih | case3 acc s t ih => exact ih (by simp [ha, hu_idem])
  | case4 acc q a kids t ih1 ih2 => simp [huF_flushT, ha, huF, huN, huAttrsQ_idem, ih1 rfl, ih2 rfl]

theorem canonTF_eq_merge (acc : Str) (f : Forest) : canonTF acc f = mergeTF acc (huF f) := by
  fun_induction canonTF acc f with
  | case1 acc => rfl
  | case2 acc s t ih | case3 acc s t ih => exact ih
  | case4 acc q a kids t ih1 ih2 => simp [huF, huN, mergeTF, ih1, ih2]

theorem canonTF_idem (f : Forest) : canonTF [] (canonTF [] f) = canonTF [] f := by
  rw [canonTF_eq_merge [] (canonTF [] f), huF_canonTF [] f rfl, mergeTF_canon_id _ (canonB_canonTF [] f)]

theorem canonT_idem (q : QName) (a : List (QName × Str)) (k : Forest) :
    canonT (canonT (.elem q a k)) = canonT (.elem q a k) := by
  simp [canonT, huAttrsQ_idem, canonTF_idem]

/-! ### second generation -/

/-- a section is empty or has at least one element child (true of every section a schema-directed document has:
    none of the eight section elements may hold character data) -/
def secOK : Forest → Bool
  | .nil => true
  | f => hasElemF f

def SecsOK (d : Doc) (uc us : Forest) : Bool :=
  secOK d.settings && secOK d.scripts && secOK d.fontFace && secOK uc && secOK d.body && secOK d.styles && secOK us &&
  secOK d.master

theorem lsec_secOK : (f : Forest) → secOK f = true → lsec f = canonTF [] f
  | .nil, _ => rfl
  | .cons _ _, h => (lsec_eq _).trans (if_pos h)

/-- a section that is not empty is not empty when it comes back -/
theorem canonTF_nonempty (a : Node) (t : Forest) (h : secOK (.cons a t) = true) :
    ∃ a' t', canonTF [] (.cons a t) = .cons a' t' := by
  have he : hasElemF (canonTF [] (.cons a t)) = true := by rw [hasElemF_canonTF]; exact h
  cases hc : canonTF [] (.cons a t) with
  | nil => rw [hc] at he; simp [hasElemF] at he
  | cons a' t' => exact ⟨a', t', rfl⟩

theorem ifKids_canon (s : Sec) (f g : Forest) (h : secOK f = true) :
    canonTF [] (appF (ifKids0 s f) g) = appF (ifKids0 s (lsec f)) (canonTF [] g) := by
  rw [lsec_secOK f h]
  cases f with
  | nil => simp [ifKids0, canonTF_nil]
  | cons a t =>
    obtain ⟨a', t', hc⟩ := canonTF_nonempty a t h
    simp [ifKids0, secEl0, canonTF_cons_elem, hc, huAttrsQ]

theorem secEl_canon (s : Sec) (f g : Forest) (h : secOK f = true) :
    canonTF [] (.cons (secEl0 s f) g) = .cons (secEl0 s (lsec f)) (canonTF [] g) := by
  rw [lsec_secOK f h]; rfl

theorem ver_stable : huAttrsQ verAttrs = verAttrs := by decide

def noGenB : Forest → Bool
  | .nil => true
  | .cons h t => !isGen h && noGenB t

theorem noGenB_filterNG : (m : Forest) → noGenB (filterNG m) = true
  | .nil => rfl
  | .cons h t => by
    unfold filterNG
    split <;> simp [noGenB, *, noGenB_filterNG t]

theorem filterNG_flushT (acc : Str) (f : Forest) : filterNG (flushT acc f) = flushT acc (filterNG f) := by
  unfold flushT; split <;> rfl

theorem canon_genNode (tv : Str) (htv : tv.map hu = tv) (acc : Str) :
    canonTF acc (.cons (genNode tv) .nil) = flushT acc (.cons (genNode tv) .nil) := by
  unfold genNode
  by_cases h : tv.isEmpty = true
  · simp [h, canonTF, huAttrsQ, flushT]
  · simp [h, canonTF, huAttrsQ, flushT, htv]

/-- a forest that ends in the library's generator and has no other is, in canonical form, unchanged by `normGen`
    (which removes the generator and appends it again) -/
theorem gen_fixed (tv : Str) (htv : tv.map hu = tv) : (X : Forest) → (acc : Str) → noGenB X = true →
    appF (filterNG (canonTF acc (appF X (.cons (genNode tv) .nil)))) (.cons (genNode tv) .nil) =
      canonTF acc (appF X (.cons (genNode tv) .nil))
  | .nil, acc, _ => by
    have hg : isGen (genNode tv) = true := by simp [genNode, isGen]
    simp [canon_genNode tv htv, filterNG_flushT, filterNG, hg, appF_flushT]
  | .cons (.text s) t, acc, h | .cons (.cdata s) t, acc, h => gen_fixed tv htv t (acc ++ s.map hu) h
  | .cons (.elem q a k) t, acc, h => by
    simp only [noGenB, Bool.and_eq_true, Bool.not_eq_true'] at h
    have hq : isGen (.elem q (huAttrsQ a) (canonTF [] k)) = false := h.1
    simp only [appF_cons, canonTF, filterNG_flushT, filterNG, hq, Bool.false_eq_true, if_false, appF_flushT]
    rw [gen_fixed tv htv t [] h.2]

theorem hasElemF_appF_elem (q : QName) (a : List (QName × Str)) (k : Forest) :
    (X : Forest) → hasElemF (appF X (.cons (.elem q a k) .nil)) = true
  | .nil | .cons (.elem _ _ _) _ => rfl
  | .cons (.text _) t | .cons (.cdata _) t => hasElemF_appF_elem q a k t

/-- the loaded metadata section is normalised already: `normGen` on it gives the canonical form of what was written -/
theorem normGen_lsec_fixed (tv : Str) (htv : tv.map hu = tv) (m : Forest) :
    normGen tv (lsec (normGen tv m)) = canonTF [] (normGen tv m) := by
  have he : hasElemF (normGen tv m) = true := hasElemF_appF_elem _ _ _ _
  rw [lsec_eq, if_pos he]
  exact gen_fixed tv htv (filterNG m) [] (noGenB_filterNG m)

/-- **C04 (second generation, partial)**: saving the loaded document writes, part by part, exactly the infoset of
    the first package (`canonT` of the tree that was written = what the reference parser returns for it), with the
    generator still named exactly once; settings.xml is written the second time iff it was the first time.
    Hypotheses: `SecsOK` (no section consists of character data only), `noSecAttrs`, the library version string has no filtered
    character, and — C10's subject — the second save selects for each part the automatic styles that were loaded
    from it (`lsec uc`, `lsec us`). -/
theorem second_generation_partial (tv : Str) (d : Doc) (uc us : Forest) (hs : SecsOK d uc us = true)
    (hsa : noSecAttrs d = true) (htv : tv.map hu = tv) :
    contentTree (expected tv d uc us) (lsec uc) = canonT (contentTree d uc) ∧
    stylesTree (expected tv d uc us) (lsec us) = canonT (stylesTree d us) ∧
    metaTree tv (expected tv d uc us) = canonT (metaTree tv d) ∧
    settingsTree (expected tv d uc us) = canonT (settingsTree d) ∧
    writesSettings (expected tv d uc us) = writesSettings d := by
  simp only [SecsOK, Bool.and_eq_true] at hs
  obtain ⟨⟨⟨⟨⟨⟨⟨kSettings, kScripts⟩, kFonts⟩, kAutoC⟩, kBody⟩, kStyles⟩, kAutoY⟩, kMaster⟩ := hs
  have he : noSecAttrs (expected tv d uc us) = true := rfl
  simp only [contentTree, stylesTree, metaTree, settingsTree, secEl_eq _ he, ifKids_eq _ he, secEl_eq d hsa,
    ifKids_eq d hsa, autoEl_eq]
  simp only [canonT, expected, ver_stable]
  refine ⟨?_, ?_, ?_, ?_, ?_⟩
  · -- content.xml
    rw [ifKids_canon _ _ _ kScripts, ifKids_canon _ _ _ kFonts, secEl_canon _ _ _ kAutoC, secEl_canon _ _ _ kBody,
      canonTF_nil]
  · -- styles.xml
    rw [← appF_nil_right (ifKids0 .master d.master), ifKids_canon _ _ _ kFonts, secEl_canon _ _ _ kStyles,
      secEl_canon _ _ _ kAutoY, ifKids_canon _ _ _ kMaster, canonTF_nil, appF_nil_right]
  · -- meta.xml
    rw [normGen_lsec_fixed tv htv]
    rfl
  · -- settings.xml
    rw [secEl_canon _ _ _ kSettings, canonTF_nil]
  · -- whether settings.xml is written
    rw [lsec_secOK _ kSettings]
    cases hd : d.settings with
    | nil => simp [writesSettings, hd, canonTF_nil]
    | cons a t =>
      obtain ⟨a', t', hc⟩ := canonTF_nonempty a t (hd ▸ kSettings)
      simp [writesSettings, hd, hc]

/-- … hence both generations have the same infoset (the reference parser returns the same tree for both) -/
theorem second_generation_infoset (tbl : NsTable) (tv : Str) (d : Doc) (uc us : Forest)
    (hx : XmlOK tbl tv d uc us) (hs : SecsOK d uc us = true) (hsa : noSecAttrs d = true) (htv : tv.map hu = tv) :
    parseDoc (render tbl (contentTree (expected tv d uc us) (lsec uc))) = parseDoc (render tbl (contentTree d uc)) ∧
    parseDoc (render tbl (stylesTree (expected tv d uc us) (lsec us))) = parseDoc (render tbl (stylesTree d us)) ∧
    parseDoc (render tbl (metaTree tv (expected tv d uc us))) = parseDoc (render tbl (metaTree tv d)) ∧
    parseDoc (render tbl (settingsTree (expected tv d uc us))) = parseDoc (render tbl (settingsTree d)) := by
  obtain ⟨e1, e2, e3, e4, _⟩ := second_generation_partial tv d uc us hs hsa htv
  -- a tree and its canonical form are parsed to the same tree: `canonT` is idempotent
  have key {q : QName} {a : List (QName × Str)} {k : Forest} (h : TreeOK tbl (.elem q a k)) :
      parseDoc (render tbl (canonT (.elem q a k))) = parseDoc (render tbl (.elem q a k)) := by
    rw [hx.parses h]
    exact (hx.parses (treeOK_canonT q a k h)).trans (congrArg some (canonT_idem q a k))
  rw [e1, e2, e3, e4]
  exact ⟨key hx.content, key hx.styles, key hx.metaT, key hx.settings⟩

/-! ### examples: a nested section, font declarations in both parts -/

def topNames : Forest → List QName
  | .nil => []
  | .cons (.elem q _ _) t => q :: topNames t
  | .cons _ t => topNames t

/-- `u:a`, `u:b`, `u:c` in the namespace "u" -/
def exQ (c : Nat) : QName := ⟨[117], [c]⟩
def exE (c : Nat) : Node := .elem (exQ c) [] .nil

/-- content.xml whose body is `<u:a/> <office:settings><u:c/></office:settings> <u:b/>` (the schema allows an inline
    office:document, with its own office:settings / office:body …, inside draw:object) -/
def nestedPart : Node :=
  .elem qDocContent [] (.cons (.elem qBody []
    (.cons (exE 97) (.cons (.elem qSettings [] (.cons (exE 99) .nil)) (.cons (exE 98) .nil)))) .nil)

/-- (KF-C04-8 / KF-C05-16, code as of e0e65e8) an element named like a section that is not a child
    of the root element is ordinary content: it stays in the body, with what follows it, and the outer document's
    settings are not touched.  The general statement is `run_section` / `build_events`, which have no
    hypothesis about the names of nested elements. -/
theorem nested_section_kept :
    (loadPart false {} (evN nestedPart)).map (fun l => (topNames l.doc.body, topNames l.doc.settings)) =
      some ([exQ 97, qSettings, exQ 98], []) := by decide +kernel

/-- `Object 1/styles.xml` -/
def sObj1Styles : Str := [79, 98, 106, 101, 99, 116, 32, 49, 47] ++ sStylesXml

/-- a part that declares the font name "F" twice (different content) and "G" once -/
def fontsPart : Node :=
  .elem qDocStyles [] (.cons (.elem qFontFace []
      (.cons (.elem qFontFaceEl [(aStyleName, [70]), (aTextStyleName, [49])] .nil)
        (.cons (.elem qFontFaceEl [(aStyleName, [70]), (aTextStyleName, [50])] .nil)
          (.cons (.elem qFontFaceEl [(aStyleName, [71])] .nil) .nil))))
    (.cons (.elem qStyles [] (.cons (exE 115) .nil)) .nil))

/-- (KF-C04-4, KF-C05-3, KF-C05-4, KF-C04-9; code as of 934baed and b40b9f8) office:font-face-decls
    is read from every part — styles.xml or content.xml, of the top document or of a sub-document; repeats INSIDE a
    part are all kept (F, F, G comes back as three declarations), and reading the same list again from the other part
    adds nothing. -/
theorem fonts_loaded_once :
    (loadPart (stylesPartOf sObj1Styles) {} (evN fontsPart)).map (fun l => declaredNames l.doc.fontFace) =
      some [some [70], some [70], some [71]] ∧
    (loadPart (stylesPartOf sContentXml) {} (evN fontsPart)).map (fun l => declaredNames l.doc.fontFace) =
      some [some [70], some [70], some [71]] ∧
    ((loadPart false {} (evN fontsPart)).bind (fun l => loadPart true l (evN fontsPart))).map
      (fun l => declaredNames l.doc.fontFace) = some [some [70], some [70], some [71]] := by decide +kernel

/-! ### the hypotheses are satisfiable -/

/-- namespace table: office ↦ "o", meta ↦ "m", "u" ↦ "p" -/
def exTbl : NsTable := [(OFFICENS, [111]), (METANS, [109]), ([117], [112])]

/-- body `<u:a>x y<u:b/> </u:a>` (mixed content, white-space-only text), one common style element, the rest empty -/
def exDoc : Doc :=
  { body := .cons (.elem (exQ 97) [] (.cons (.text [120, 32, 121]) (.cons (exE 98) (.cons (.text [32]) .nil)))) .nil,
    styles := .cons (exE 115) .nil }

theorem exTbl_ok : TableOK exTbl := by
  unfold TableOK StrOK; decide +kernel

/-- a Boolean check that implies the XML layer's `TreeOK` (so that `XmlOK` can be established by evaluation) -/
def strOKb (s : Str) : Bool := s.all (fun c => decide (c < 0x110000))
def qnameOKb (q : QName) : Bool := isNCName q.loc && (!q.ns.isEmpty || decide (q.loc ≠ XMLNS_NAME))
def coveredB (tbl : NsTable) (q : QName) : Bool := q.ns.isEmpty || (lookupNs tbl q.ns).isSome
def attrsOKb (tbl : NsTable) (as : List (QName × Str)) : Bool :=
  nodupQ as && as.all (fun a => qnameOKb a.1 && coveredB tbl a.1 && strOKb a.2)

mutual
def treeOKb (tbl : NsTable) : Node → Bool
  | .text s => strOKb s
  | .cdata s => strOKb s
  | .elem q a k => qnameOKb q && coveredB tbl q && attrsOKb tbl a && forestOKb tbl k
def forestOKb (tbl : NsTable) : Forest → Bool
  | .nil => true
  | .cons h t => treeOKb tbl h && forestOKb tbl t
end

theorem strOKb_sound {s : Str} (h : strOKb s = true) : StrOK s := by
  simpa [strOKb, StrOK] using h

theorem qnameOKb_sound {q : QName} (h : qnameOKb q = true) : QNameOK q := by
  simp only [qnameOKb, Bool.and_eq_true, Bool.or_eq_true, Bool.not_eq_true', decide_eq_true_eq] at h
  exact ⟨h.1, fun hn => h.2.resolve_left (by simp [hn])⟩

theorem coveredB_sound {tbl : NsTable} {q : QName} (h : coveredB tbl q = true) : Covered tbl q := by
  simp only [coveredB, Bool.or_eq_true] at h
  exact h.imp List.isEmpty_iff.mp Option.isSome_iff_exists.mp

theorem attrsOKb_sound {tbl : NsTable} {as : List (QName × Str)} (h : attrsOKb tbl as = true) : AttrsQOK tbl as := by
  simp only [attrsOKb, Bool.and_eq_true, List.all_eq_true] at h
  exact ⟨h.1, fun a ha => ⟨qnameOKb_sound (h.2 a ha).1.1, coveredB_sound (h.2 a ha).1.2, strOKb_sound (h.2 a ha).2⟩⟩

mutual
theorem treeOKb_sound (tbl : NsTable) : (n : Node) → treeOKb tbl n = true → TreeOK tbl n
  | .text s, h | .cdata s, h => strOKb_sound h
  | .elem q a k, h => by
    simp only [treeOKb, Bool.and_eq_true] at h
    exact ⟨qnameOKb_sound h.1.1.1, coveredB_sound h.1.1.2, attrsOKb_sound h.1.2, forestOKb_sound tbl k h.2⟩
theorem forestOKb_sound (tbl : NsTable) : (f : Forest) → forestOKb tbl f = true → ForestOK tbl f
  | .nil, _ => trivial
  | .cons h t, hh => by
    simp only [forestOKb, Bool.and_eq_true] at hh
    exact ⟨treeOKb_sound tbl h hh.1, forestOKb_sound tbl t hh.2⟩
end

/-- non-vacuity: all hypotheses of `load_save_partial`, `loadedOf_doc`, `second_generation_partial` hold for a document with mixed
    content and white-space-only text in the body, a common style, the library's generator string "T" -/
example : XmlOK exTbl [84] exDoc .nil .nil ∧ LoadOK [84] exDoc .nil .nil = true ∧ SecsOK exDoc .nil .nil = true ∧
    noSecAttrs exDoc = true ∧ onlyFonts (canonTF [] exDoc.fontFace) = true ∧ ([84] : Str).map hu = [84] := by
  refine ⟨⟨exTbl_ok, ?_, ?_, ?_, ?_, ?_⟩, by decide +kernel, by decide +kernel, by decide +kernel, by decide +kernel,
    by decide +kernel⟩
  · unfold NsClean; decide +kernel
  · exact treeOKb_sound _ _ (by decide +kernel)
  · exact treeOKb_sound _ _ (by decide +kernel)
  · exact treeOKb_sound _ _ (by decide +kernel)
  · exact treeOKb_sound _ _ (by decide +kernel)

end OdfModel.Props.C04
