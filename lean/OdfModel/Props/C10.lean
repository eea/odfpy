/-
  Property C10 — saving keeps every referenced automatic style in the part that refers to it.

  Theorems about `OdfModel.Styles` (model of `_stylerefs_of` / `_parseoneelement` / `_used_auto_styles`
  with its closure loop / the two call sites in `contentxml` and `stylesxml`, as of commits 8f9573d, ff5b530) and the
  generated tables `OdfModel.Generated.StyleRefs` (schema style-reference attributes, measured followed
  attributes, measured separators of `str.split`).
  Tie: harness/translate_styles.py (tables, every run) and the correspondence run of harness/c10.py.
-/
import OdfModel.Styles
import OdfModel.Generated.StyleRefs
import OdfModel.ListFacts
namespace OdfModel.Props.C10
open OdfModel OdfModel.Styles OdfModel.Generated.StyleRefs

/-! ### The scan computes exactly the de-duplicated list of references -/

theorem mem_addRef (acc : List Str) (v x : Str) : x ∈ addRef acc v ↔ x ∈ acc ∨ x = v := by
  unfold addRef
  split
  · exact ⟨Or.inl, fun h => h.elim id (· ▸ ‹_›)⟩
  · simp

theorem nodup_addRef (acc : List Str) (v : Str) (h : acc.Nodup) : (addRef acc v).Nodup := by
  unfold addRef
  split
  · exact h
  · next hv => exact nodup_concat h hv

theorem mem_foldl_addRef (l : List Str) (acc : List Str) (x : Str) :
    x ∈ l.foldl addRef acc ↔ x ∈ acc ∨ x ∈ l := by
  induction l generalizing acc with
  | nil => simp
  | cons v r ih => simp [ih, mem_addRef, or_assoc]

theorem nodup_foldl_addRef (l : List Str) (acc : List Str) (h : acc.Nodup) :
    (l.foldl addRef acc).Nodup := by
  induction l generalizing acc with
  | nil => simpa
  | cons v r ih => exact ih _ (nodup_addRef acc v h)

theorem scanAttrs_eq (F : List Attr) (attrs : Attrs) (acc : List Str) :
    scanAttrs F attrs acc = (ownRefs F attrs).foldl addRef acc := by
  induction F generalizing acc with
  | nil => rfl
  | cons a r ih =>
    simp only [scanAttrs, ownRefs, List.filterMap_cons, ih]
    cases attrs.lookup a with
    | none => rfl
    | some v => by_cases hv : v = [] <;> simp [hv]

theorem scanList_eq (sp : Cp → Bool) (L : List Attr) (attrs : Attrs) (acc : List Str) :
    scanList sp L attrs acc = (ownListRefs sp L attrs).foldl addRef acc := by
  induction L generalizing acc with
  | nil => rfl
  | cons a r ih =>
    simp only [scanList, ownListRefs, List.filterMap_cons, ih]
    cases attrs.lookup a <;> simp

mutual
theorem parseNode_eq (C : Cfg) (n : Node) (acc : List Str) :
    parseNode C n acc = (refsNode C n).foldl addRef acc := by
  cases n with
  | text s => rfl
  | elem name attrs kids =>
    simp only [parseNode, refsNode, List.foldl_append]
    rw [parseKids_eq C kids, scanList_eq, scanAttrs_eq]
theorem parseKids_eq (C : Cfg) (ks : List Node) (acc : List Str) :
    parseKids C ks acc = (refsKids C ks).foldl addRef acc := by
  cases ks with
  | nil => rfl
  | cons n r =>
    simp only [parseKids, refsKids, List.foldl_append]
    rw [parseKids_eq C r, parseNode_eq C n]
end

theorem mem_parseNode (C : Cfg) (n : Node) (acc : List Str) (x : Str) :
    x ∈ parseNode C n acc ↔ x ∈ acc ∨ x ∈ refsNode C n := by
  rw [parseNode_eq, mem_foldl_addRef]

theorem mem_refsKids_iff {C : Cfg} {ks : List Node} {v : Str} :
    v ∈ refsKids C ks ↔ ∃ k ∈ ks, v ∈ refsNode C k := by
  induction ks with
  | nil => simp [refsKids]
  | cons n r ih => simp [refsKids, ih]

theorem collect_eq (C : Cfg) (segs : List Node) (acc : List Str) :
    collect C segs acc = (segs.flatMap (fun t => refsKids C (kidsOf t))).foldl addRef acc := by
  induction segs generalizing acc with
  | nil => rfl
  | cons t r ih => simp only [collect, List.flatMap_cons, List.foldl_append, ih, parseKids_eq]

theorem mem_collect (C : Cfg) (segs : List Node) (v : Str) :
    v ∈ collect C segs [] ↔ ∃ top ∈ segs, ∃ k ∈ kidsOf top, v ∈ refsNode C k := by
  simp [collect_eq, mem_foldl_addRef, mem_refsKids_iff]

/-- `if stylename not in stylenamelist`: the collected list never holds a name twice -/
theorem collect_nodup (C : Cfg) (segs : List Node) : (collect C segs []).Nodup := by
  rw [collect_eq]; exact nodup_foldl_addRef _ _ (by simp)

/-! ### The closure loop reaches a fixpoint -/

/-- the loop carries the children of `office:automatic-styles` with a flag "already scanned"; this is the number
    of children still to scan, which a round that grows decreases (`sweep_spec`) -/
def unscanned (fl : List (Bool × Node)) : Nat := (fl.filter (fun p => !p.1)).length

/-- what holds of a child once it is flagged: its name is on the list, and so is everything it refers to -/
def Scanned (C : Cfg) (names : List Str) (e : Node) : Prop :=
  (∃ v, styleNameOf e = some v ∧ v ∈ names) ∧ ∀ x ∈ refsNode C e, x ∈ names

/-- the loop's invariant; `R` is any property of names that passes from a style's name to what the style refers to
    (`hR` below; `Reach` in the end) -/
def Inv (C : Cfg) (R : Str → Prop) (names : List Str) (fl : List (Bool × Node)) : Prop :=
  (∀ x ∈ names, R x) ∧ ∀ p ∈ fl, p.1 = true → Scanned C names p.2

/-- what a round that does not grow leaves behind -/
def Stable (names : List Str) (fl : List (Bool × Node)) : Prop :=
  ∀ p ∈ fl, p.1 = false → keptPred names p.2 = false

theorem Scanned.mono {C : Cfg} {n n' : List Str} {e : Node} (h : ∀ x ∈ n, x ∈ n') (hs : Scanned C n e) :
    Scanned C n' e := by
  obtain ⟨⟨v, hv, hvn⟩, hr⟩ := hs
  exact ⟨⟨v, hv, h v hvn⟩, fun x hx => h x (hr x hx)⟩

theorem keptPred_iff {names : List Str} {e : Node} :
    keptPred names e = true ↔ ∃ v, styleNameOf e = some v ∧ v ∈ names := by
  unfold keptPred
  cases styleNameOf e <;> simp

theorem unscanned_cons (b : Bool) (e : Node) (fl : List (Bool × Node)) :
    unscanned ((b, e) :: fl) = unscanned fl + (!b).toNat := by
  cases b <;> simp [unscanned]

/-- **one round of the loop**: names only grow; the children stay the same nodes in the same order; the invariant is kept;
    a round that ends not grown started so, changed nothing and leaves no unscanned child that qualifies; a round that
    grew scanned at least one child more -/
theorem sweep_spec {C : Cfg} (R : Str → Prop) {fl : List (Bool × Node)} {names : List Str} {g : Bool}
    (hR : ∀ e ∈ fl.map (·.2), ∀ s, styleNameOf e = some s → R s → ∀ x ∈ refsNode C e, R x)
    {names' : List Str} {fl' : List (Bool × Node)} {g' : Bool} (h : sweep C fl names g = (names', fl', g')) :
    (∀ x ∈ names, x ∈ names') ∧ fl'.map (·.2) = fl.map (·.2) ∧ (Inv C R names fl → Inv C R names' fl') ∧
    (g' = false → g = false ∧ names' = names ∧ fl' = fl ∧ Stable names fl) ∧
    unscanned fl' + (g' && !g).toNat ≤ unscanned fl := by
  fun_induction sweep C fl names g generalizing names' fl' g' with
  | case1 names g =>
    cases h
    exact ⟨fun _ h => h, rfl, id, fun h => ⟨h, rfl, rfl, nofun⟩, by cases g <;> exact Nat.le_refl _⟩
  | case2 b e r names g hc res ih =>
    -- `e` is scanned now: its references join the names, the round has grown
    rcases hs : res with ⟨n1, f1, g1⟩
    rw [hs] at h
    cases h
    simp only [Bool.and_eq_true, Bool.not_eq_true'] at hc
    obtain ⟨rfl, hk⟩ := hc
    obtain ⟨grow, same, inv, notGrown, count⟩ := ih (fun e he => hR e (List.mem_cons_of_mem _ he)) hs
    have hm : ∀ x ∈ names, x ∈ parseNode C e names := fun x hx => (mem_parseNode C e names x).mpr (Or.inl hx)
    obtain ⟨v, hv, hvn⟩ := keptPred_iff.mp hk
    refine ⟨fun x hx => grow x (hm x hx), congrArg (e :: ·) same, fun hi => ?_,
      fun h => Bool.noConfusion (notGrown h).1, ?_⟩
    · -- the invariant holds after the scan of `e` (then `inv` takes it through the rest of the round) …
      have hR' : ∀ x ∈ parseNode C e names, R x := fun x hx =>
        ((mem_parseNode C e names x).mp hx).elim (hi.1 x) (hR e List.mem_cons_self v hv (hi.1 v hvn) x)
      have hi' := inv ⟨hR', fun q hq hb => (hi.2 q (List.mem_cons_of_mem _ hq) hb).mono hm⟩
      -- … and `e`, flagged now, is `Scanned`: its name was on the list, its references have just joined it
      have he : Scanned C n1 e :=
        ⟨⟨v, hv, grow v (hm v hvn)⟩, fun x hx => grow x ((mem_parseNode C e names x).mpr (Or.inr hx))⟩
      exact ⟨hi'.1, List.forall_mem_cons.mpr ⟨fun _ => he, hi'.2⟩⟩
    · have := Bool.toNat_le (g1 && !g)
      simp only [unscanned_cons, Bool.not_true, Bool.not_false, Bool.and_false, Bool.toNat_false, Bool.toNat_true] at count ⊢
      omega
  | case3 b e r names g hc res ih =>
    rcases hs : res with ⟨n1, f1, g1⟩
    rw [hs] at h
    cases h
    -- `e` is passed by: scanned before, or not (yet) named on the list
    obtain ⟨grow, same, inv, notGrown, count⟩ := ih (fun e he => hR e (List.mem_cons_of_mem _ he)) hs
    refine ⟨grow, congrArg (e :: ·) same, fun hi => ?_, fun h => ?_, ?_⟩
    · have hi' := inv ⟨hi.1, (List.forall_mem_cons.mp hi.2).2⟩
      exact ⟨hi'.1, List.forall_mem_cons.mpr ⟨fun hb => (hi.2 _ List.mem_cons_self hb).mono grow, hi'.2⟩⟩
    · obtain ⟨hg, rfl, rfl, h4⟩ := notGrown h
      exact ⟨hg, rfl, rfl, List.forall_mem_cons.mpr ⟨fun hb => by simpa [show b = false from hb] using hc, h4⟩⟩
    · simp only [unscanned_cons] at count ⊢
      omega

/-- **the `while grown` loop ends at a fixpoint**: the fuel `number of children + 1` is never exhausted, since every round
    that grows scans a child more -/
theorem closeLoop_stable {C : Cfg} (R : Str → Prop) {fuel : Nat} {fl : List (Bool × Node)} {names : List Str}
    (hR : ∀ e ∈ fl.map (·.2), ∀ s, styleNameOf e = some s → R s → ∀ x ∈ refsNode C e, R x)
    (hf : unscanned fl < fuel) (hi : Inv C R names fl)
    {names' : List Str} {fl' : List (Bool × Node)} (h : closeLoop C fuel fl names = (names', fl')) :
    (∀ x ∈ names, x ∈ names') ∧ fl'.map (·.2) = fl.map (·.2) ∧ Inv C R names' fl' ∧ Stable names' fl' := by
  induction fuel generalizing fl names with
  | zero => omega
  | succ f ih =>
    rcases hs : sweep C fl names false with ⟨n1, f1, g1⟩
    obtain ⟨grow, same, inv, notGrown, count⟩ := sweep_spec R hR hs
    simp only [closeLoop, hs] at h
    cases g1 with
    | true =>
      obtain ⟨h1, h2, h3, h4⟩ := ih (by rw [same]; exact hR) (by simp at count; omega) (inv hi) h
      exact ⟨fun x hx => h1 x (grow x hx), h2.trans same, h3, h4⟩
    | false =>
      cases h
      obtain ⟨-, rfl, rfl, h4⟩ := notGrown rfl
      exact ⟨fun x hx => hx, rfl, hi, h4⟩

/-- the state the loop of `_used_auto_styles` ends in -/
def final (C : Cfg) (segs : List Node) (auto : Node) : List Str × List (Bool × Node) :=
  closeLoop C (((kidsOf auto).map (fun e => (false, e))).length + 1) ((kidsOf auto).map (fun e => (false, e)))
    (collect C segs [])

theorem final_spec (C : Cfg) (segs : List Node) (auto : Node) :
    (∀ x ∈ collect C segs [], x ∈ (final C segs auto).1) ∧
    (∀ x ∈ (final C segs auto).1, Reach (refsNode C) segs auto x) ∧
    (final C segs auto).2.map (·.2) = kidsOf auto ∧
    ∀ p ∈ (final C segs auto).2, p.1 = keptPred (final C segs auto).1 p.2 ∧
      (p.1 = true → ∀ x ∈ refsNode C p.2, x ∈ (final C segs auto).1) := by
  unfold final
  generalize hfl : (kidsOf auto).map (fun e => (false, e)) = fl
  have hmap : fl.map (·.2) = kidsOf auto := by rw [← hfl, List.map_map]; exact List.map_id _
  rcases hfin : closeLoop C (fl.length + 1) fl (collect C segs []) with ⟨N, F⟩
  obtain ⟨h1, h2, h3, h4⟩ := closeLoop_stable (Reach (refsNode C) segs auto)
    (by rw [hmap]; exact fun e he s hs hr x hx => Reach.step hr he hs hx)
    (Nat.lt_succ_of_le (List.length_filter_le _ _))
    ⟨fun x hx => by
        obtain ⟨top, htop, k, hk, hxk⟩ := (mem_collect C segs x).mp hx
        exact Reach.root htop hk hxk,
      fun p hp hb => by obtain ⟨e, _, rfl⟩ := List.mem_map.mp (hfl ▸ hp); cases hb⟩ hfin
  refine ⟨h1, h3.1, h2.trans hmap, fun p hp => ⟨?_, fun hb => (h3.2 p hp hb).2⟩⟩
  -- scanned children qualify (`Inv`), unscanned ones do not (`Stable`)
  cases hb : p.1 with
  | true => exact (keptPred_iff.mpr (h3.2 p hp hb).1).symm
  | false => exact (h4 p hp hb).symm

theorem usedAuto_filter (C : Cfg) (segs : List Node) (auto : Node) :
    usedAuto C segs auto = (kidsOf auto).filter (keptPred (final C segs auto).1) := by
  obtain ⟨_, _, h2, h3⟩ := final_spec C segs auto
  show ((final C segs auto).2.filter (·.1)).map (·.2) = _
  rw [← h2, List.filter_map]
  exact congrArg _ (List.filter_congr fun p hp => (h3 p hp).1)

theorem mem_final_iff (C : Cfg) (segs : List Node) (auto : Node) (v : Str) :
    v ∈ (final C segs auto).1 ↔ Reach (refsNode C) segs auto v := by
  obtain ⟨h1, hsound, h2, h3⟩ := final_spec C segs auto
  refine ⟨hsound v, fun h => ?_⟩
  induction h with
  | root htop hk hv => exact h1 _ ((mem_collect C segs _).mpr ⟨_, htop, _, hk, hv⟩)
  | step _ he hn hv ih =>
    -- the style named `s` qualifies, so it was scanned: all it refers to is on the list
    rw [← h2, List.mem_map] at he
    obtain ⟨p, hp, rfl⟩ := he
    exact (h3 p hp).2 ((h3 p hp).1.trans (keptPred_iff.mpr ⟨_, hn, ih⟩)) _ hv

/-- **C10 (kept ⇔ reachable)**: an automatic style is written to a part exactly when its `style:name` is
    reachable — referenced from below one of the scanned containers, directly or through any chain of
    kept automatic styles — through the attributes the code follows. -/
theorem kept_iff (C : Cfg) (segs : List Node) (auto e : Node) :
    e ∈ usedAuto C segs auto ↔
      e ∈ kidsOf auto ∧ ∃ v, styleNameOf e = some v ∧ Reach (refsNode C) segs auto v := by
  simp only [usedAuto_filter, List.mem_filter, keptPred_iff, mem_final_iff]

theorem reach_mono {refs : Node → List Str} {roots roots' : List Node} {auto auto' : Node} {v : Str}
    (hroots : ∀ top ∈ roots, ∀ k ∈ kidsOf top, ∃ top' ∈ roots', k ∈ kidsOf top')
    (hauto : kidsOf auto ⊆ kidsOf auto') (hr : Reach refs roots auto v) : Reach refs roots' auto' v := by
  induction hr with
  | root htop hk hv =>
    obtain ⟨top', ht', hk'⟩ := hroots _ htop _ hk
    exact Reach.root ht' hk' hv
  | step _ he hs hv ih => exact Reach.step ih (hauto he) hs hv

theorem usedAuto_mono (C : Cfg) {segs segs' : List Node} {auto auto' e : Node}
    (hroots : ∀ top ∈ segs, ∀ k ∈ kidsOf top, ∃ top' ∈ segs', k ∈ kidsOf top')
    (hauto : kidsOf auto ⊆ kidsOf auto') (hk : e ∈ usedAuto C segs auto) : e ∈ usedAuto C segs' auto' := by
  obtain ⟨he, v, hn, hr⟩ := (kept_iff C segs auto e).mp hk
  exact (kept_iff C segs' auto' e).mpr ⟨hauto he, v, hn, reach_mono hroots hauto hr⟩

/-! ### From the schema's references to the code's -/

def noSp (sp : Cp → Bool) (v : Str) : Prop := ∀ c ∈ v, sp c = false

instance (sp : Cp → Bool) (v : Str) : Decidable (noSp sp v) := by unfold noSp; infer_instance

/-- the automatic styles have names without white space (`style:name` is an NCName by the schema) -/
def WellNamed (sp : Cp → Bool) (auto : Node) : Prop :=
  ∀ e ∈ kidsOf auto, ∀ s, styleNameOf e = some s → noSp sp s

/-- splitting at more separators still finds every item that contains none of them -/
theorem splitBy_mono (p q : Cp → Bool) (hpq : ∀ c, p c = true → q c = true) (s cur cur' v : Str)
    (hv : v ∈ splitBy p s cur) (hq : noSp q v) (hc : noSp q cur → cur' = cur) :
    v ∈ splitBy q s cur' := by
  -- when a run is flushed: if it is `v` it is clean, so both splits hold the same run (`hc`); what is found later stays
  have later : ∀ {cur' : Str} {X : List Str}, v ∈ X → v ∈ (if cur' = [] then X else cur' :: X) := by
    intro cur' X h
    split
    · exact h
    · exact List.mem_cons_of_mem _ h
  fun_induction splitBy p s cur generalizing cur' with
  | case1 => cases hv
  | case2 cur hne =>
    cases List.mem_singleton.mp hv
    rw [hc hq, splitBy, if_neg hne]
    exact .head _
  | case3 c r hp ih =>
    rw [splitBy, if_pos (hpq c hp)]
    exact later (ih [] hv fun _ => rfl)
  | case4 c r cur hp hne ih =>
    rw [splitBy, if_pos (hpq c hp)]
    rcases List.mem_cons.mp hv with rfl | h
    · rw [hc hq, if_neg hne]
      exact .head _
    · exact later (ih [] h fun _ => rfl)
  | case5 c r cur hp ih =>
    -- `c` goes on the run of the `p`-split; for the `q`-split it may end a run, which then is not `v`
    rw [splitBy]
    by_cases hqc : q c = true
    · rw [if_pos hqc]
      exact later (ih [] hv fun h => absurd hqc (Bool.eq_false_iff.mp (h c (List.mem_append_right _ (.head _)))))
    · rw [if_neg hqc]
      exact ih _ hv fun h => by rw [hc fun x hx => h x (List.mem_append_left _ hx)]

theorem mem_ownRefs (S : List Attr) (attrs : Attrs) (v : Str) :
    v ∈ ownRefs S attrs ↔ v ≠ [] ∧ ∃ a ∈ S, attrs.lookup a = some v := by
  simp only [ownRefs, List.mem_filterMap]
  constructor
  · rintro ⟨a, ha, h⟩
    cases hl : attrs.lookup a with
    | none => simp [hl] at h
    | some w =>
      by_cases hw : w = [] <;> simp [hl, hw] at h
      exact ⟨h ▸ hw, a, ha, h ▸ hl⟩
  · rintro ⟨hv, a, ha, hl⟩
    exact ⟨a, ha, by simp [hl, hv]⟩

theorem mem_ownListRefs (sp : Cp → Bool) (L : List Attr) (attrs : Attrs) (v : Str) :
    v ∈ ownListRefs sp L attrs ↔ ∃ a ∈ L, ∃ w, attrs.lookup a = some w ∧ v ∈ splitBy sp w [] := by
  simp only [ownListRefs, List.mem_flatMap, List.mem_filterMap]
  constructor
  · rintro ⟨w, ⟨a, ha, hl⟩, hv⟩; exact ⟨a, ha, w, hl, hv⟩
  · rintro ⟨a, ha, w, hl, hv⟩; exact ⟨w, ⟨a, ha, hl⟩, hv⟩

mutual
theorem refsNode_spec_code (C : Cfg) (S L : List Attr) (hS : S ⊆ C.single) (hL : L ⊆ C.list)
    (hsp : ∀ c, xmlSpace c = true → C.sp c = true) (n : Node) (v : Str) (hn : noSp C.sp v)
    (hv : v ∈ refsNode (specCfg S L) n) : v ∈ refsNode C n := by
  cases n with
  | text s => simp [refsNode] at hv
  | elem name attrs kids =>
    simp only [refsNode, List.mem_append, specCfg] at hv ⊢
    rcases hv with (hv | hv) | hv
    · exact Or.inl (Or.inl (List.filterMap_subset _ hS hv))
    · obtain ⟨w, hw, hs⟩ := List.mem_flatMap.mp hv
      exact Or.inl (Or.inr (List.mem_flatMap.mpr
        ⟨w, List.filterMap_subset _ hL hw, splitBy_mono xmlSpace C.sp hsp w [] [] v hs hn fun _ => rfl⟩))
    · exact Or.inr (refsKids_spec_code C S L hS hL hsp kids v hn hv)
theorem refsKids_spec_code (C : Cfg) (S L : List Attr) (hS : S ⊆ C.single) (hL : L ⊆ C.list)
    (hsp : ∀ c, xmlSpace c = true → C.sp c = true) (ks : List Node) (v : Str) (hn : noSp C.sp v)
    (hv : v ∈ refsKids (specCfg S L) ks) : v ∈ refsKids C ks := by
  cases ks with
  | nil => simp [refsKids] at hv
  | cons n r =>
    simp only [refsKids, List.mem_append] at hv ⊢
    rcases hv with hv | hv
    · exact Or.inl (refsNode_spec_code C S L hS hL hsp n v hn hv)
    · exact Or.inr (refsKids_spec_code C S L hS hL hsp r v hn hv)
end

theorem reach_spec_code (C : Cfg) (S L : List Attr) (hS : S ⊆ C.single) (hL : L ⊆ C.list)
    (hsp : ∀ c, xmlSpace c = true → C.sp c = true) (segs : List Node) (auto : Node)
    (hw : WellNamed C.sp auto) (v : Str) (hr : Reach (refsNode (specCfg S L)) segs auto v) :
    noSp C.sp v → Reach (refsNode C) segs auto v := by
  induction hr with
  | root htop hk hv =>
    intro hn; exact Reach.root htop hk (refsNode_spec_code C S L hS hL hsp _ _ hn hv)
  | step _ he hs hv ih =>
    intro hn
    exact Reach.step (ih (hw _ he _ hs)) he hs (refsNode_spec_code C S L hS hL hsp _ _ hn hv)

/-- **C10 (closure, any scanned containers)**: if the code follows every single-valued attribute of `S`
    and splits every list-valued attribute of `L` (at least at XML white space), then every automatic
    style reachable from the scanned containers through the schema's references — directly or through
    any chain of automatic styles — is kept. -/
theorem closure_kept (C : Cfg) (S L : List Attr) (hS : S ⊆ C.single) (hL : L ⊆ C.list)
    (hsp : ∀ c, xmlSpace c = true → C.sp c = true) (segs : List Node) (auto : Node)
    (hw : WellNamed C.sp auto) (e : Node) (v : Str) (he : e ∈ kidsOf auto) (hn : styleNameOf e = some v)
    (hr : Reach (refsNode (specCfg S L)) segs auto v) : e ∈ usedAuto C segs auto :=
  (kept_iff C segs auto e).mpr ⟨he, v, hn, reach_spec_code C S L hS hL hsp segs auto hw v hr (hw e he v hn)⟩

/-! ### The tables, and the property for the code as it is -/

/-- the configuration of the real code, from the regenerated tables -/
def codeCfg : Cfg := { single := followedAttrs, list := followedListAttrs, sp := fun c => pySpaceTable.contains c }

/-- single-valued / list-valued style-reference attributes of the ODF schema -/
def schemaSingle : List Attr := schemaStyleRefAttrs.filter (fun a => !schemaListTyped.contains a)

/-- **C10 (table)**: every style-reference attribute of the schema is followed by the code — the
    single-valued ones as names, the list-valued ones split into names. -/
theorem schema_refs_followed : schemaSingle ⊆ followedAttrs ∧ schemaListTyped ⊆ followedListAttrs ∧
    schemaListTyped ⊆ schemaStyleRefAttrs := by decide +kernel

/-- `str.split()` splits at every XML white-space character (and some more) -/
theorem xmlSpace_split : ∀ c, xmlSpace c = true → codeCfg.sp c = true := by
  intro c h
  simp only [xmlSpace, Bool.or_eq_true, beq_iff_eq] at h
  rcases h with ((h | h) | h) | h <;> subst h <;> decide

/-- the naming attribute is not itself followed (otherwise every style would refer to itself) -/
theorem styleName_not_followed : styleNameAttr ∉ followedAttrs ∧ styleNameAttr ∉ followedListAttrs := by decide +kernel

/-- **C10 (content.xml, full strength)**: every automatic style referenced from the body through any
    style-reference attribute of the ODF schema, directly or via other automatic styles, is written to
    content.xml. -/
theorem closure_kept_content (d : StyleDoc) (hw : WellNamed codeCfg.sp d.auto) (e : Node) (v : Str)
    (he : e ∈ kidsOf d.auto) (hn : styleNameOf e = some v)
    (hr : Reach (refsNode (specCfg schemaSingle schemaListTyped)) [d.body] d.auto v) :
    e ∈ contentKept codeCfg d := by
  have hr' : Reach (refsNode (specCfg schemaSingle schemaListTyped)) [d.styles, d.body] d.auto v :=
    reach_mono (fun top ht k hk => ⟨top, List.mem_cons_of_mem _ ht, hk⟩) (fun _ h => h) hr
  exact closure_kept codeCfg _ _ schema_refs_followed.1 schema_refs_followed.2.1 xmlSpace_split _ _ hw e v he hn hr'

/-- **C10 (styles.xml, full strength)**: every automatic style referenced from the master styles
    (master pages, their headers, footers and shapes) through any style-reference attribute of the ODF
    schema, directly or via other automatic styles, is written to styles.xml. -/
theorem closure_kept_styles (d : StyleDoc) (hw : WellNamed codeCfg.sp d.auto) (e : Node) (v : Str)
    (he : e ∈ kidsOf d.auto) (hn : styleNameOf e = some v)
    (hr : Reach (refsNode (specCfg schemaSingle schemaListTyped)) [d.master] d.auto v) :
    e ∈ stylesKept codeCfg d :=
  closure_kept codeCfg _ _ schema_refs_followed.1 schema_refs_followed.2.1 xmlSpace_split _ _ hw e v he hn hr

/-- **C10 (at most once per part)**: the kept list is a sub-list of the children of
    `office:automatic-styles` — same elements, same order, no element repeated … -/
theorem kept_sublist (C : Cfg) (segs : List Node) (auto : Node) :
    (usedAuto C segs auto).Sublist (kidsOf auto) := by
  rw [usedAuto_filter]
  exact List.filter_sublist

/-- … so if the children of `office:automatic-styles` have pairwise different `style:name`s (at most one has none),
    so have the styles written to a part. -/
theorem kept_once (C : Cfg) (segs : List Node) (auto : Node)
    (h : (namesOf (kidsOf auto)).Nodup) : (namesOf (usedAuto C segs auto)).Nodup :=
  ((kept_sublist C segs auto).map styleNameOf).nodup h

/-- **C10 (definition unchanged)**: every kept element *is* a child of `office:automatic-styles`
    (the same subtree: name, attributes, children).  That both call sites then print it like any other
    element (`s.toXml(2, xml)`) is outside this model. -/
theorem definition_unchanged (C : Cfg) (segs : List Node) (auto e : Node)
    (h : e ∈ usedAuto C segs auto) : e ∈ kidsOf auto :=
  (kept_sublist C segs auto).subset h

/-- **C10 (never dangling)**: in both parts, whatever a *written* automatic style refers to (through
    the followed attributes) and that names an automatic style is written too. -/
theorem kept_closed (C : Cfg) (segs : List Node) (auto s e : Node) (v : Str)
    (hs : s ∈ usedAuto C segs auto) (hv : v ∈ refsNode C s)
    (he : e ∈ kidsOf auto) (hn : styleNameOf e = some v) : e ∈ usedAuto C segs auto := by
  obtain ⟨hsk, w, hw, hr⟩ := (kept_iff C segs auto s).mp hs
  exact (kept_iff C segs auto e).mpr ⟨he, v, hn, Reach.step hr hsk hw hv⟩

/-- **C10 (nothing unreferenced)**: an automatic style whose name is not reachable from the scanned
    containers is not written — in particular one that only an *unused* automatic style refers to
    (`office:automatic-styles` is not a seed of content.xml). -/
theorem not_kept_of_unreachable (C : Cfg) (segs : List Node) (auto e : Node)
    (h : ∀ v, styleNameOf e = some v → ¬ Reach (refsNode C) segs auto v) : e ∉ usedAuto C segs auto := by
  intro hk
  obtain ⟨_, v, hv, hr⟩ := (kept_iff C segs auto e).mp hk
  exact h v hv hr

/-- content.xml is seeded from the common styles and the body; whatever is reachable from there
    through chains of automatic styles is written, nothing else -/
theorem contentKept_iff (C : Cfg) (d : StyleDoc) (e : Node) :
    e ∈ contentKept C d ↔
      e ∈ kidsOf d.auto ∧ ∃ v, styleNameOf e = some v ∧ Reach (refsNode C) [d.styles, d.body] d.auto v :=
  kept_iff C [d.styles, d.body] d.auto e

/-! ### Non-vacuity -/

def X : Str := [88]
def Y : Str := [89]
abbrev tsn : Attr := a_text_style_name
abbrev dsn : Attr := a_style_data_style_name
abbrev tcn : Attr := a_text_class_names

/-- master page → paragraph style `X` (text:class-names="Q X", a list value) → data style `Y`
    (style:data-style-name); an unused style `Z` -/
def chain : StyleDoc :=
  { styles := .elem 100 [] []
    auto := .elem 101 [] [.elem 112 [(styleNameAttr, Y)] [], .elem 113 [(styleNameAttr, [90])] [],
                          .elem 110 [(styleNameAttr, X), (dsn, Y)] []]
    master := .elem 102 [] [.elem 111 [(tcn, [81, 32, 88])] []]
    body := .elem 103 [] [] }

/-- the hypotheses of the closure theorems are satisfiable, and the loop really iterates: `Y` is found in
    the second round only (it precedes `X` among the automatic styles); `Z` is not kept; content.xml of the
    document with an empty body keeps nothing (`X` → `Y` alone does not make `Y` used) -/
theorem chain_kept :
    namesOf (stylesKept codeCfg chain) = [some Y, some X] ∧
    namesOf (contentKept codeCfg { chain with body := chain.master }) = [some Y, some X] ∧
    namesOf (contentKept codeCfg chain) = [] := by
  decide +kernel

/-- unused automatic style `X` refers to automatic style `Y`; the body uses neither: neither is written
    to content.xml -/
def unusedRef : StyleDoc :=
  { styles := .elem 100 [] []
    auto := .elem 101 [] [.elem 110 [(styleNameAttr, X), (dsn, Y)] [], .elem 112 [(styleNameAttr, Y)] []]
    master := .elem 102 [] []
    body := .elem 103 [] [.elem 111 [(tsn, [90])] []] }

theorem unused_ref_not_written :
    namesOf (contentKept codeCfg unusedRef) = [] ∧ namesOf (stylesKept codeCfg unusedRef) = [] := by decide +kernel

theorem chain_wellNamed : WellNamed codeCfg.sp chain.auto := by
  show ∀ e ∈ kidsOf chain.auto, ∀ s ∈ styleNameOf e, noSp codeCfg.sp s
  decide +kernel

theorem chain_reach : Reach (refsNode (specCfg schemaSingle schemaListTyped)) [chain.master] chain.auto Y := by
  have h1 : Reach (refsNode (specCfg schemaSingle schemaListTyped)) [chain.master] chain.auto X :=
    Reach.root (top := chain.master) (k := .elem 111 [(tcn, [81, 32, 88])] []) (.head _) (.head _) (by decide +kernel)
  exact Reach.step (e := .elem 110 [(styleNameAttr, X), (dsn, Y)] []) h1 (.tail _ (.tail _ (.head _))) (by decide +kernel)
    (by decide +kernel)

end OdfModel.Props.C10
