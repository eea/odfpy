/-
  Property C05 — load then save preserves a package produced by any application.

  Model: `OdfModel.LoadSax` (`fixXmlPart` at character level, LoadParser over SAX events) and `OdfModel.Pkg`
  (the manifest dispatch of `load`, `save`).  Foreign XML is NOT parsed by the reference parser of the XML layer
  (it only knows the sub-language the library writes): expat is the trusted front end, the model starts from the
  namespace-resolved event stream.  Tie: harness/c05.py (real `__fixXmlPart` on the text of every part vs
  `fixXmlPart`; recorded SAX streams through the model vs the loaded document, driver drv_load; the dispatch is tied by C03/C16's drv_pkg).

  PARTIAL by construction (DESIGN.md §7): the link "text of a part ↦ event stream" is expat's.
-/
import OdfModel.Props.C04
import OdfModel.Props.C05Extras
namespace OdfModel.Props.C05
open OdfModel OdfModel.Xml OdfModel.LoadSax OdfModel.Props.C04

/-! ### `__fixXmlPart` (as of fixes 4cb8050, 692b8c3, e859a9c) -/

/-- the document element's start tag (up to its first `>` outside quoted values) declares every requested prefix, with any white space
    in front of `xmlns:` and around `=` -/
def DeclaresInRoot (x : Str) : Prop :=
  ∀ e, findRootEnd x = some e → ∀ p ∈ requested, declares p (rootTagText x e) = true

/-- a text in which no element start is found is not touched -/
theorem fix_no_root (x : Str) (h : findRootEnd x = none) : fixXmlPart x = x := by
  unfold fixXmlPart; rw [h]

/-! #### the function only ever inserts INSIDE the root start tag (fix e859a9c) -/

theorem rootEndAt_bounds (x : Str) (k e : Nat) (h : rootEndAt x k = some e) : k + 2 ≤ e ∧ e ≤ x.length := by
  unfold rootEndAt at h
  split at h
  · rename_i d r hd
    split at h
    · rename_i hc
      cases h
      have hlen : x.length - k = (d :: r).length + 1 := by rw [← List.length_drop, hd]; rfl
      have htw := (List.takeWhile_sublist isRootNameCh (l := d :: r)).length_le
      have hdn : isRootNameCh d = true := by simp only [Bool.and_eq_true] at hc; exact hc.2
      simp only [List.takeWhile_cons, hdn, if_true, List.length_cons] at htw hlen ⊢
      omega
    · cases h
  · cases h

theorem take_splice (x ins : Str) (e k : Nat) (he : e ≤ x.length) (hk : k ≤ e) :
    (x.take e ++ ins ++ x.drop e).take k = x.take k := by
  have hl : (x.take e).length = e := by simp [List.length_take, he]
  rw [List.append_assoc, List.take_append_of_le_length (by omega), List.take_take, Nat.min_eq_left hk]

theorem drop_splice (x ins : Str) (e : Nat) (he : e ≤ x.length) :
    (x.take e ++ ins ++ x.drop e).drop e = ins ++ x.drop e := by
  have hl : (x.take e).length = e := by simp [List.length_take, he]
  rw [List.append_assoc, List.drop_append_of_le_length (by omega), List.drop_of_length_le (by omega)]; simp

/-- what the loop splices in behind the element name: the declaration of every requested prefix the start tag does
    not declare, the last one first -/
def inserted (tag : Str) (ps : List Str) : Str := ((ps.filter fun p => !declares p tag).reverse.map toInsert).flatten

theorem foldl_fixStep_eq (tag x : Str) (e : Nat) (he : e ≤ x.length) (ps : List Str) (ins : Str) :
    ps.foldl (fixStep tag e) (x.take e ++ ins ++ x.drop e) = x.take e ++ (inserted tag ps ++ ins) ++ x.drop e := by
  induction ps generalizing ins with
  | nil => simp [inserted]
  | cons p ps ih =>
    have h1 := take_splice x ins e e he (Nat.le_refl e)
    have h2 := drop_splice x ins e he
    by_cases hd : declares p tag = true
    · simpa [fixStep, hd, inserted] using ih ins
    · have := ih (toInsert p ++ ins)
      simp only [List.foldl_cons, fixStep, hd, h1, h2]
      simpa [inserted, hd, List.append_assoc] using this

/-- **`__fixXmlPart`, exactly**: the input with the missing declarations spliced in behind the element name -/
theorem fixXmlPart_eq (x : Str) (e : Nat) (h : findRootEnd x = some e) :
    fixXmlPart x = x.take e ++ inserted (rootTagText x e) requested ++ x.drop e := by
  have he := (rootEndAt_bounds x (prologLen x) e h).2
  have := foldl_fixStep_eq (rootTagText x e) x e he requested []
  simpa [fixXmlPart, h] using this

/-- **C05 (fix_identity)**: a part whose document element declares the nine prefixes is not touched — whatever
    white space separates the declarations. -/
theorem fix_identity (x : Str) (h : DeclaresInRoot x) : fixXmlPart x = x := by
  cases hr : findRootEnd x with
  | none => exact fix_no_root x hr
  | some e =>
    have : requested.filter (fun p => !declares p (rootTagText x e)) = [] :=
      List.filter_eq_nil_iff.mpr (fun p hp => by simp [h e hr p hp])
    simp [fixXmlPart_eq x e hr, inserted, this]

/-- **C05 / C13 (fix_inserts_in_root_tag)**: either the text is returned as it is, or the document element's name ends at
    `e`, at least two characters (`<` and one name character) behind the prolog, and the result is the input with text
    inserted at `e` — behind the element name, inside the root start tag — and nowhere else. -/
theorem fix_inserts_in_root_tag (x : Str) :
    fixXmlPart x = x ∨ ∃ e ins, findRootEnd x = some e ∧ prologLen x + 2 ≤ e ∧ e ≤ x.length ∧
      fixXmlPart x = x.take e ++ ins ++ x.drop e := by
  cases hr : findRootEnd x with
  | none => exact .inl (fix_no_root x hr)
  | some e =>
    obtain ⟨h1, h2⟩ := rootEndAt_bounds x (prologLen x) e hr
    exact .inr ⟨e, _, rfl, h1, h2, fixXmlPart_eq x e hr⟩

/-- **C05 / C13 (fix_prolog_untouched)**: the result agrees with the input on the whole prolog — everything in front
    of the document element's start tag: XML declaration, comments, processing instructions, the DOCTYPE with its
    internal subset — and on the `<` and the first name character behind it.  For EVERY text (`prologLen` is Python's
    match of the prolog regex, well-formed prolog or not). -/
theorem fix_prolog_untouched (x : Str) :
    (fixXmlPart x).take (prologLen x + 2) = x.take (prologLen x + 2) := by
  rcases fix_inserts_in_root_tag x with h | ⟨e, ins, _, h1, h2, h⟩
  · rw [h]
  · rw [h, take_splice x ins e _ h2 h1]

theorem fix_prolog_untouched_le (x : Str) (k : Nat) (hk : k ≤ prologLen x + 2) :
    (fixXmlPart x).take k = x.take k := by
  have h := congrArg (List.take k) (fix_prolog_untouched x)
  simpa [List.take_take, Nat.min_eq_left hk] using h

/-- … and nothing behind the element name is touched either: the rest of the input follows the inserted text -/
theorem fix_rest_untouched (x : Str) (e : Nat) (h : findRootEnd x = some e) :
    ∃ ins, (fixXmlPart x).drop e = ins ++ x.drop e :=
  ⟨_, by rw [fixXmlPart_eq x e h, drop_splice x _ e (rootEndAt_bounds x _ e h).2]⟩

/-- an entity literal with a `<b` inside the internal subset -/
def w5 : Str := [60, 33, 68, 79, 67, 84, 89, 80, 69, 32, 120, 32, 91, 60, 33, 69, 78, 84, 73, 84, 89, 32, 97, 32, 34, 60, 98, 62, 69, 88, 80, 60, 47, 98, 62, 34, 62, 93, 62, 60, 114, 47, 62]

/-- `<!DOCTYPE x [<!ENTITY a "<b>EXP</b>">]><r/>`: the prolog is the whole DOCTYPE (39 characters), the document element is
    `r`, not the `b` of the literal, and the nine declarations go behind `<r` -/
theorem fix_w5_root_behind_doctype :
    prologLen w5 = 39 ∧ findRootEnd w5 = some 41 ∧ (fixXmlPart w5).take 41 = w5.take 41 ∧
      (fixXmlPart w5).length = w5.length + (requested.map (fun p => (toInsert p).length)).sum := by
  decide +kernel

/-! #### a scanner for the attribute names of the first start tag (specification side, any XML white space) -/

def isWs (c : Cp) : Bool := c == 32 || c == 9 || c == 10 || c == 13

/-- mode 0: inside the element name; 1: between attributes; 2: inside an attribute name (`cur`); 3: after the name,
    before the value; 4: inside a value quoted with `q`.  Stops at the `>` that ends the tag. -/
def scanAttrs : Nat → Str → Cp → Str → List Str
  | _, _, _, [] => []
  | 0, cur, q, c :: r => if c == 62 then [] else if isWs c || c == 47 then scanAttrs 1 [] q r else scanAttrs 0 cur q r
  | 1, cur, q, c :: r => if c == 62 then [] else if isWs c || c == 47 then scanAttrs 1 [] q r else scanAttrs 2 [c] q r
  | 2, cur, q, c :: r =>
    if c == 62 then [cur] else if c == 61 || isWs c then cur :: scanAttrs 3 [] q r else scanAttrs 2 (cur ++ [c]) q r
  | 3, cur, q, c :: r =>
    if c == 62 then [] else if c == 34 || c == 39 then scanAttrs 4 [] c r else scanAttrs 3 cur q r
  | _, cur, q, c :: r => if c == q then scanAttrs 1 [] q r else scanAttrs 4 cur q r

/-- the text after the first `?>` (the XML declaration), from the first `<` on, without that `<` -/
def afterProlog : Str → Str
  | 63 :: 62 :: r => (r.dropWhile (· != 60)).drop 1
  | _ :: r => afterProlog r
  | [] => []

def rootAttrNames (x : Str) : List Str := scanAttrs 0 [] 0 (afterProlog x)

/-- the markup (everything between `<` and the matching `>`) and the character data of a text without `>` inside
    attribute values -/
def splitMarkup : Bool → Str → Str × Str
  | _, [] => ([], [])
  | true, c :: r => let p := splitMarkup (c != 62) r; (c :: p.1, p.2)
  | false, c :: r => if c == 60 then let p := splitMarkup true r; (c :: p.1, p.2) else let p := splitMarkup false r; (p.1, c :: p.2)

/-! #### the parse step, with expat as a parameter -/

/-- what a conforming XML processor must do with a start tag that names an attribute twice (well-formedness
    constraint "Unique Att Spec") -/
def RejectsDuplicateRootAttr (P : Str → Option (List Event)) : Prop :=
  ∀ x, ¬ (rootAttrNames x).Nodup → P x = none

/-- one iteration of `__loadxmlparts`: `__fixXmlPart`, parse, LoadParser; a `SAXParseException` is printed and
    SWALLOWED (`none` of the parser ↦ the document as it was).  Exact when the error is in the root start tag (no
    event has been delivered yet), which is where `__fixXmlPart` splices. -/
def loadText (P : Str → Option (List Event)) (member : Str) (l : Loaded) (x : Str) : Loaded :=
  match P (fixXmlPart x) with
  | none => l
  | some evs => (loadPart (stylesPartOf member) l evs).getD l

/-- content.xml: the first declaration after a blank, `xmlns:meta` after newline + TAB, a body with one paragraph -/
def w1 : Str := [60, 63, 120, 109, 108, 32, 118, 101, 114, 115, 105, 111, 110, 61, 39, 49, 46, 48, 39, 32, 101, 110, 99, 111, 100, 105, 110, 103, 61, 39, 85, 84, 70, 45, 56, 39, 63, 62, 10, 60, 111, 58, 100, 111, 99, 117, 109, 101, 110, 116, 45, 99, 111, 110, 116, 101, 110, 116, 32, 120, 109, 108, 110, 115, 58, 111, 61, 34, 117, 114, 110, 58, 111, 97, 115, 105, 115, 58, 110, 97, 109, 101, 115, 58, 116, 99, 58, 111, 112, 101, 110, 100, 111, 99, 117, 109, 101, 110, 116, 58, 120, 109, 108, 110, 115, 58, 111, 102, 102, 105, 99, 101, 58, 49, 46, 48, 34, 10, 9, 120, 109, 108, 110, 115, 58, 109, 101, 116, 97, 61, 34, 117, 114, 110, 58, 109, 34, 62, 60, 111, 58, 98, 111, 100, 121, 62, 60, 117, 58, 112, 32, 120, 109, 108, 110, 115, 58, 117, 61, 34, 117, 34, 47, 62, 60, 47, 111, 58, 98, 111, 100, 121, 62, 60, 47, 111, 58, 100, 111, 99, 117, 109, 101, 110, 116, 45, 99, 111, 110, 116, 101, 110, 116, 62]

/-- `xmlns:meta` -/
def sXmlnsMeta : Str := [120, 109, 108, 110, 115, 58, 109, 101, 116, 97]

/-- (KF-C05-1, code as of 4cb8050) in `w1` — first declaration after a blank, `xmlns:meta` after newline + TAB — the
    declaration of `meta` is seen: the patched root tag names every attribute once, and the eight prefixes that were
    missing are declared. -/
theorem fix_w1_ok :
    (rootAttrNames (fixXmlPart w1)).Nodup ∧ (rootAttrNames (fixXmlPart w1)).count sXmlnsMeta = 1 ∧
    (rootAttrNames (fixXmlPart w1)).length = 2 + 8 := by
  decide +kernel

/-- content.xml whose root tag has a literal `>` inside an attribute value in FRONT of the declaration of `meta` -/
def w4 : Str := [60, 63, 120, 109, 108, 32, 118, 101, 114, 115, 105, 111, 110, 61, 39, 49, 46, 48, 39, 32, 101, 110, 99, 111, 100, 105, 110, 103, 61, 39, 85, 84, 70, 45, 56, 39, 63, 62, 10, 60, 111, 58, 100, 111, 99, 117, 109, 101, 110, 116, 45, 99, 111, 110, 116, 101, 110, 116, 32, 120, 109, 108, 110, 115, 58, 111, 61, 34, 117, 114, 110, 58, 111, 97, 115, 105, 115, 58, 110, 97, 109, 101, 115, 58, 116, 99, 58, 111, 112, 101, 110, 100, 111, 99, 117, 109, 101, 110, 116, 58, 120, 109, 108, 110, 115, 58, 111, 102, 102, 105, 99, 101, 58, 49, 46, 48, 34, 32, 120, 109, 108, 110, 115, 58, 120, 61, 34, 97, 62, 98, 34, 32, 120, 109, 108, 110, 115, 58, 109, 101, 116, 97, 61, 34, 117, 114, 110, 58, 109, 34, 62, 60, 111, 58, 98, 111, 100, 121, 62, 60, 117, 58, 112, 32, 120, 109, 108, 110, 115, 58, 117, 61, 34, 117, 34, 47, 62, 60, 47, 111, 58, 98, 111, 100, 121, 62, 60, 47, 111, 58, 100, 111, 99, 117, 109, 101, 110, 116, 45, 99, 111, 110, 116, 101, 110, 116, 62]

/-- (KF-C05-17, code as of 692b8c3) the root start tag ends at the first `>` OUTSIDE a quoted
    value: in `w4` the declaration of `meta` behind `xmlns:x="a>b"` is seen, nothing is declared twice. -/
theorem fix_w4_ok :
    (rootAttrNames w4).Nodup ∧ sXmlnsMeta ∈ rootAttrNames w4 ∧
    (rootAttrNames (fixXmlPart w4)).Nodup ∧ (rootAttrNames (fixXmlPart w4)).count sXmlnsMeta = 1 ∧
    (rootAttrNames (fixXmlPart w4)).length = 3 + 8 := by
  decide +kernel

/-- content.xml with newline-separated declarations and the words ` xmlns:x` in a paragraph -/
def w2 : Str := [60, 63, 120, 109, 108, 32, 118, 101, 114, 115, 105, 111, 110, 61, 39, 49, 46, 48, 39, 32, 101, 110, 99, 111, 100, 105, 110, 103, 61, 39, 85, 84, 70, 45, 56, 39, 63, 62, 10, 60, 111, 58, 100, 111, 99, 117, 109, 101, 110, 116, 45, 99, 111, 110, 116, 101, 110, 116, 10, 120, 109, 108, 110, 115, 58, 111, 61, 34, 117, 114, 110, 58, 111, 97, 115, 105, 115, 58, 110, 97, 109, 101, 115, 58, 116, 99, 58, 111, 112, 101, 110, 100, 111, 99, 117, 109, 101, 110, 116, 58, 120, 109, 108, 110, 115, 58, 111, 102, 102, 105, 99, 101, 58, 49, 46, 48, 34, 62, 60, 111, 58, 98, 111, 100, 121, 62, 60, 117, 58, 112, 10, 120, 109, 108, 110, 115, 58, 117, 61, 34, 117, 34, 62, 115, 97, 121, 32, 120, 109, 108, 110, 115, 58, 120, 60, 47, 117, 58, 112, 62, 60, 47, 111, 58, 98, 111, 100, 121, 62, 60, 47, 111, 58, 100, 111, 99, 117, 109, 101, 110, 116, 45, 99, 111, 110, 116, 101, 110, 116, 62]

/-- (KF-C05-2, code as of 4cb8050) in `w2` — declarations separated by newlines, the words ` xmlns:x` in a paragraph —
    the character data is not touched: all nine insertions go into the root tag. -/
theorem fix_w2_text_untouched :
    (splitMarkup false (fixXmlPart w2)).2 = (splitMarkup false w2).2 ∧
    (rootAttrNames (fixXmlPart w2)).Nodup ∧ (rootAttrNames (fixXmlPart w2)).length = 1 + 9 := by
  decide +kernel

/-- a part that satisfies `fix_identity`: all nine prefixes declared after a blank -/
def w3 : Str := [60, 63, 120, 109, 108, 32, 118, 101, 114, 115, 105, 111, 110, 61, 39, 49, 46, 48, 39, 32, 101, 110, 99, 111, 100, 105, 110, 103, 61, 39, 85, 84, 70, 45, 56, 39, 63, 62, 10, 60, 111, 58, 100, 111, 99, 117, 109, 101, 110, 116, 45, 99, 111, 110, 116, 101, 110, 116, 32, 120, 109, 108, 110, 115, 58, 111, 61, 34, 117, 114, 110, 58, 111, 97, 115, 105, 115, 58, 110, 97, 109, 101, 115, 58, 116, 99, 58, 111, 112, 101, 110, 100, 111, 99, 117, 109, 101, 110, 116, 58, 120, 109, 108, 110, 115, 58, 111, 102, 102, 105, 99, 101, 58, 49, 46, 48, 34, 32, 120, 109, 108, 110, 115, 58, 109, 101, 116, 97, 61, 34, 109, 34, 32, 120, 109, 108, 110, 115, 58, 99, 111, 110, 102, 105, 103, 61, 34, 99, 34, 32, 120, 109, 108, 110, 115, 58, 100, 99, 61, 34, 100, 34, 32, 120, 109, 108, 110, 115, 58, 115, 116, 121, 108, 101, 61, 34, 115, 34, 32, 120, 109, 108, 110, 115, 58, 115, 118, 103, 61, 34, 118, 34, 32, 120, 109, 108, 110, 115, 58, 102, 111, 61, 34, 102, 34, 32, 120, 109, 108, 110, 115, 58, 100, 114, 97, 119, 61, 34, 114, 34, 32, 120, 109, 108, 110, 115, 58, 116, 97, 98, 108, 101, 61, 34, 116, 34, 32, 120, 109, 108, 110, 115, 58, 102, 111, 114, 109, 61, 34, 103, 34, 62, 60, 111, 58, 98, 111, 100, 121, 47, 62, 60, 47, 111, 58, 100, 111, 99, 117, 109, 101, 110, 116, 45, 99, 111, 110, 116, 101, 110, 116, 62]

/-- non-vacuity of `fix_identity` -/
example : DeclaresInRoot w3 := by
  intro e he p hp
  have : findRootEnd w3 = some 58 := by decide +kernel
  rw [this] at he; cases he
  revert p; decide +kernel

/-! ### sections over SAX event streams -/

/-- **C05 (sections_preserved, partial)**: a section of a foreign part, as expat delivers it — `kids` canonical
    (character data merged, no empty text) — is loaded EXACTLY: element for element, attribute for attribute,
    character for character, white-space-only text included, whatever elements it contains (an inline office:document
    with its own office:body … included: code as of e0e65e8); and what `save` then writes for it is parsed back to
    the same forest (`canonTF [] kids = kids`).
    Hypotheses, each a decidable property of the source: the parser is idle and the section still empty (first
    occurrence); the element is a section element (`secOfTrigger`: all eight, office:font-face-decls from every part:
    code as of b40b9f8); `kids` has at least one element child (else its text is dropped), registers only fresh
    style names (no rename: C11), no string of it holds a code point the writer filters (`huF kids = kids`: KF-C02-1);
    no further condition for office:font-face-decls (declared font names are taken when the section starts: empty
    here, so every declaration of this part is kept, repeats included; the second part: `font_section_second_part`).
    Not in the model: attribute converters (values must be fixed points: C15), expat itself. -/
theorem sections_preserved_partial (st : St) (q : QName) (a : List (QName × Str)) (kids : Forest) (s : Sec)
    (hi : Idle st) (hf : st.fix = []) (hempty : st.doc.get s = .nil) (hr : secOfTrigger q = some s)
    (hfr : fresh st.names (regAllF (some (qOfSec s)) kids) = true)
    (hc : canonB kids = true) (he : hasElemF kids = true) (hh : huF kids = kids) :
    ∃ st', run st (evN (.elem q a kids)) = some st' ∧ st'.doc.get s = kids ∧ canonTF [] (st'.doc.get s) = kids ∧
      st'.doc.sattrs s = putAttrs (st.doc.sattrs s) a ∧ Idle st' ∧ st'.fix = [] := by
  have hk := keepS_of_empty st.doc s kids hempty
  have hg : (afterSection st s a kids).doc.get s = kids := by
    simp [afterSection, hk, hempty, secContent, he, mergeTF_canon_id kids hc]
  refine ⟨afterSection st s a kids, run_section st q a kids s hi hf hr (by rw [hk]; exact hfr), hg,
    by rw [hg, canonTF_eq_merge, hh, mergeTF_canon_id kids hc], ?_, afterSection_idle st s a kids hi,
    hf⟩
  simp [afterSection, Doc.putAttrs]

/-- the other sections are not touched by it -/
theorem other_sections_untouched (st : St) (q : QName) (a : List (QName × Str)) (kids : Forest) (s s' : Sec)
    (hi : Idle st) (hf : st.fix = []) (hr : secOfTrigger q = some s)
    (hfr : fresh st.names (regAllF (some (qOfSec s)) (keepS st.doc s kids)) = true) (hne : s' ≠ s) :
    ∃ st', run st (evN (.elem q a kids)) = some st' ∧ st'.doc.get s' = st.doc.get s' :=
  ⟨afterSection st s a kids, run_section st q a kids s hi hf hr hfr,
    by simp [afterSection, Doc.get_app_other _ _ _ _ hne]⟩

theorem setA_fresh (k : QName) (v : Str) : (cur : List (QName × Str)) → k ∉ cur.map (·.1) → setA k v cur = cur ++ [(k, v)]
  | [], _ => rfl
  | (q, w) :: r, h => by
    have h1 : q ≠ k := by intro e; apply h; simp [e]
    have h2 : k ∉ r.map (·.1) := by intro e; apply h; simp [e]
    simp [setA, h1, setA_fresh k v r h2]

theorem putAttrs_fresh : (a cur : List (QName × Str)) → ((cur ++ a).map (·.1)).Nodup → putAttrs cur a = cur ++ a
  | [], cur, _ => by simp [putAttrs]
  | (k, v) :: r, cur, h => by
    have hk : k ∉ cur.map (·.1) := by
      intro e
      simp only [List.map_append, List.map_cons, List.nodup_append] at h
      exact h.2.2 k e k (by simp) rfl
    rw [putAttrs, setA_fresh k v cur hk, putAttrs_fresh r (cur ++ [(k, v)]) (by simpa [List.append_assoc] using h)]
    simp

/-- (KF-C05-9, code as of 2a48e47) **the attributes of a section element are kept**: a section
    object that has no attributes yet ends up with exactly the attributes of the file, in order (SAX delivers every
    attribute name once) -/
theorem section_attributes_kept (a : List (QName × Str)) (h : (a.map (·.1)).Nodup) : putAttrs [] a = a := by
  simpa using putAttrs_fresh a [] (by simpa using h)

/-- **office:font-face-decls of the part read second** (styles.xml after content.xml), exact statement: the fonts whose
    style:name the first part declared are skipped, the others are appended.  So the font declarations of a foreign
    package are preserved exactly when the two parts AGREE on every name both declare (then nothing that is skipped is
    lost); two different fonts under one name in the two parts lose the second (KF-C05-18, `finding_font_name_clash`). -/
theorem font_section_second_part (st : St) (q : QName) (a : List (QName × Str)) (kids : Forest)
    (hi : Idle st) (hf : st.fix = []) (hr : secOfTrigger q = some .fontFace)
    (hfr : fresh st.names (regAllF (some qFontFace) (fontDrop (declaredNames st.doc.fontFace) kids)) = true) :
    ∃ st', run st (evN (.elem q a kids)) = some st' ∧
      st'.doc.fontFace = appF st.doc.fontFace (secContent (fontDrop (declaredNames st.doc.fontFace) kids)) :=
  ⟨afterSection st .fontFace a kids, run_section st q a kids .fontFace hi hf hr hfr,
    by simp [afterSection, keepS, Doc.app, Doc.set, Doc.get, Doc.putAttrs]⟩

/-- (KF-C05-3, code as of b40b9f8) a font declared in content.xml is loaded; `fonts_loaded_once` (Props/C04.lean) shows
    content only / a sub-document's styles.xml / both parts, with a name repeated inside the part. -/
theorem content_fonts_loaded :
    (loadPart (stylesPartOf sContentXml) {} (evN fontsPart)).map (fun l => declaredNames l.doc.fontFace) =
      some [some [70], some [70], some [71]] := fonts_loaded_once.2.1

/-- **known finding KF-C05-18, proved**: the part read first declared the font name "F"; the part read second declares
    "F" with other content and "G": its "F" is dropped whatever it says, "G" is kept. -/
theorem finding_font_name_clash :
    fontDrop [some [70]] (.cons (.elem qFontFaceEl [(aStyleName, [70]), (aTextStyleName, [50])] .nil)
                           (.cons (.elem qFontFaceEl [(aStyleName, [71])] .nil) .nil)) =
      .cons (.elem qFontFaceEl [(aStyleName, [71])] .nil) .nil := by
  simp [fontDrop, lookupA, aStyleName]

/-! `extras_carried` (every manifest entry `load` does not interpret is carried by load + save) is a statement about the
  package layer; it is in this namespace but in Props/C05Extras.lean, imported above. -/

end OdfModel.Props.C05
