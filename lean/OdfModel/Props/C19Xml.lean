/-
  Property C19, the bridge to the XML layer.  `Props/C19.lean` proves what `update` does to the declarations as attribute
  dictionaries; here they are written by the writer model (`render`, i.e. `Element.toXml`), read back by the reference
  parser, and `list_fields_and_values` is computed on the PARSED attributes: one row per declaration, in order, every
  value through the writer's filter `hu` (`listing_reads_back`); after an update, the rows `update_sets` predicts
  (`listing_after_update`).
  Attribute keys are interned as `Nat` in the C19 model; `qn : AttrKey → QName` is ANY injective naming whose names the
  writer can write (the legend of Generated/ValueTypes.lean is one).  Tie: harness/c19.py (the oracle lists the real
  output through an independent expat reading) and harness/xmlchecks.py (writer byte for byte).
-/
import OdfModel.Xml.Compose
import OdfModel.Props.C19
import OdfModel.Ns
namespace OdfModel.Props.C19Xml
open OdfModel OdfModel.Xml OdfModel.Spec OdfModel.UserField

def qattrs (qn : AttrKey → QName) : List (AttrKey × Str) → List (QName × Str)
  | [] => []
  | (k, v) :: r => (qn k, v) :: qattrs qn r

/-- `<text:user-field-decl …/>` with the declaration's attribute dictionary -/
def fieldNode (qn : AttrKey → QName) (qDecl : QName) (f : Field) : Node := .elem qDecl (qattrs qn f.attrs) .nil

def fieldForest (qn : AttrKey → QName) (qDecl : QName) : List Field → Forest
  | [] => .nil
  | f :: r => .cons (fieldNode qn qDecl f) (fieldForest qn qDecl r)

/-- the declarations below one root element (`text:user-field-decls`) -/
def declsTree (qn : AttrKey → QName) (qRoot qDecl : QName) (fs : List Field) : Node :=
  .elem qRoot [] (fieldForest qn qDecl fs)

/-- `getAttribute` on parsed attributes -/
def attrVal (as : List (QName × Str)) (q : QName) : Option Str :=
  match as with
  | [] => none
  | (k, v) :: r => if k = q then some v else attrVal r q

mutual
/-- `getElementsByType(UserFieldDecl)`: the attribute lists of all `qDecl` elements, in document order -/
def declsOf (qDecl : QName) : Node → List (List (QName × Str))
  | .elem q as kids => (if q = qDecl then [as] else []) ++ declsOfF qDecl kids
  | .text _ => []
  | .cdata _ => []
def declsOfF (qDecl : QName) : Forest → List (List (QName × Str))
  | .nil => []
  | .cons h t => declsOf qDecl h ++ declsOfF qDecl t
end

/-- one row of `list_fields_and_values`, computed on XML attributes -/
def viewX (qn : AttrKey → QName) (as : List (QName × Str)) : Option Str × Option Str × Option Str :=
  (attrVal as (qn nameKey), attrVal as (qn typeKey), attrVal as (qn (listAttrFor (attrVal as (qn typeKey)))))

def listX (qn : AttrKey → QName) (qDecl : QName) (n : Node) : List (Option Str × Option Str × Option Str) :=
  (declsOf qDecl n).map (viewX qn)

/-- a declaration as it arrives: every attribute value through the writer's filter -/
def huField (f : Field) : Field := ⟨f.attrs.map fun kv => (kv.1, kv.2.map hu)⟩

theorem qattrs_eq_map (qn : AttrKey → QName) (l : List (AttrKey × Str)) :
    qattrs qn l = l.map fun kv => (qn kv.1, kv.2) := by
  induction l with
  | nil => rfl
  | cons a r ih => simp [qattrs, ih]

theorem fieldForest_eq (qn : AttrKey → QName) (qDecl : QName) (fs : List Field) :
    fieldForest qn qDecl fs = leaves qDecl (fs.map fun f => qattrs qn f.attrs) := by
  induction fs with
  | nil => rfl
  | cons f r ih => simp [fieldForest, fieldNode, leaves, ih]

theorem declsOfF_leaves (qDecl : QName) (l : List (List (QName × Str))) : declsOfF qDecl (leaves qDecl l) = l := by
  induction l with
  | nil => rfl
  | cons as r ih => simp [leaves, declsOfF, declsOf, ih]

theorem attrVal_qattrs (qn : AttrKey → QName) (hinj : Function.Injective qn) (l : List (AttrKey × Str)) (k : AttrKey) :
    attrVal (qattrs qn l) (qn k) = lookup k l := by
  induction l with
  | nil => rfl
  | cons a r ih => simp [qattrs, attrVal, lookup, hinj.eq_iff, ih]

theorem huAttrsQ_qattrs (qn : AttrKey → QName) (f : Field) :
    huAttrsQ (qattrs qn f.attrs) = qattrs qn (huField f).attrs := by
  simp [huAttrsQ_eq_map, qattrs_eq_map, huField, List.map_map, Function.comp_def]

/-- what the writer needs of the names and the dictionaries: writable, known names; distinct keys; well-formed strings -/
structure Writable (tbl : NsTable) (qn : AttrKey → QName) (qRoot qDecl : QName) (fs : List Field) : Prop where
  root : QNameOK qRoot ∧ Covered tbl qRoot
  decl : QNameOK qDecl ∧ Covered tbl qDecl
  names : ∀ k, QNameOK (qn k) ∧ Covered tbl (qn k)
  keys : ∀ f ∈ fs, (f.attrs.map (·.1)).Nodup
  strs : ∀ f ∈ fs, ∀ kv ∈ f.attrs, StrOK kv.2

theorem attrsQOK_qattrs {tbl : NsTable} {qn : AttrKey → QName} (hinj : Function.Injective qn)
    (hn : ∀ k, QNameOK (qn k) ∧ Covered tbl (qn k)) (l : List (AttrKey × Str))
    (hk : (l.map (·.1)).Nodup) (hs : ∀ kv ∈ l, StrOK kv.2) : AttrsQOK tbl (qattrs qn l) := by
  rw [qattrs_eq_map]
  refine ⟨?_, List.forall_mem_map.mpr fun kv hm => ⟨(hn kv.1).1, (hn kv.1).2, hs kv hm⟩⟩
  rw [nodupQ_iff, List.map_map]
  exact nodup_map_of_nodup_map _ (·.1) l hk fun a _ b _ (h : qn a.1 = qn b.1) => hinj h

/-- **C19 (listing reads back what was written)**: write the declarations with the library's writer, parse the bytes,
    list: one row per declaration, in order, computed from the declaration's attributes as they arrive through the
    writer's character filter. -/
theorem listing_reads_back (tbl : NsTable) (qn : AttrKey → QName) (hinj : Function.Injective qn) (qRoot qDecl : QName)
    (fs : List Field) (ht : TableOK tbl) (hcl : NsClean tbl) (hne : qRoot ≠ qDecl) (w : Writable tbl qn qRoot qDecl fs) :
    (parseDoc (render tbl (declsTree qn qRoot qDecl fs))).map (listX qn qDecl) = some (listFields (fs.map huField)) := by
  have hattrs : ∀ as ∈ fs.map (fun f => qattrs qn f.attrs), AttrsQOK tbl as :=
    List.forall_mem_map.mpr fun f hf => attrsQOK_qattrs hinj w.names f.attrs (w.keys f hf) (w.strs f hf)
  unfold declsTree
  rw [fieldForest_eq, parseDoc_render_leaves tbl qRoot qDecl _ ht hcl w.root w.decl hattrs]
  -- a row computed on the written names is the row computed on the keys, `qn` being injective
  have hview (f : Field) : viewX qn (qattrs qn f.attrs) = view f := by
    simp [viewX, view, Field.name, Field.vtype, attrVal_qattrs qn hinj]
  simp [listX, declsOf, hne, declsOfF_leaves, listFields, huAttrsQ_qattrs, hview]

theorem huField_clean (f : Field) (h : ∀ kv ∈ f.attrs, kv.2.map hu = kv.2) : huField f = f := by
  cases f with
  | mk attrs => exact congrArg Field.mk (map_eq_self fun kv hkv => by simp [h kv hkv])

/-- **C19 (update, then save, then list — at the level of the bytes)**: when `update` succeeds and no attribute of the
    updated declarations holds a code point the writer filters, listing the WRITTEN output (parsed by the reference
    parser) returns exactly the rows `update_sets` predicts: the new value for every named field, the old row for
    every other. -/
theorem listing_after_update (tbl : NsTable) (qn : AttrKey → QName) (hinj : Function.Injective qn) (qRoot qDecl : QName)
    (data : Data) (fs fs' : List Field) (h : update data fs = .ok fs')
    (ht : TableOK tbl) (hcl : NsClean tbl) (hne : qRoot ≠ qDecl) (w : Writable tbl qn qRoot qDecl fs')
    (hclean : ∀ f ∈ fs', ∀ kv ∈ f.attrs, kv.2.map hu = kv.2) :
    (parseDoc (render tbl (declsTree qn qRoot qDecl fs'))).map (listX qn qDecl) = some (fs.map (C19.expectedView data)) := by
  rw [listing_reads_back tbl qn hinj qRoot qDecl fs' ht hcl hne w]
  rw [map_eq_self fun f hf => huField_clean f (hclean f hf), C19.update_sets data fs fs' h]

/-- the filter is visible in the general statement: a value with U+0001 is listed as U+FFFD -/
example : huField ⟨[(2, [97, 1])]⟩ = ⟨[(2, [97, 0xFFFD])]⟩ := by decide +kernel

theorem setAttr_nodup (k : AttrKey) (v : Str) (l : List (AttrKey × Str)) (h : (l.map Prod.fst).Nodup) :
    ((setAttr k v l).map Prod.fst).Nodup := by
  rw [C19.setAttr_keys]
  split
  · exact h
  · next hk => exact nodup_concat h hk

/-- `update` keeps the keys of a dictionary distinct (the premise `Writable.keys` for the updated list) -/
theorem updField_writable (data : Data) (f f' : Field) (h : updField data f = .ok f')
    (hk : (f.attrs.map (·.1)).Nodup) : (f'.attrs.map (·.1)).Nodup := by
  rcases C19.updField_ok h with ⟨_, rfl⟩ | ⟨_, _, _, _, rfl⟩
  · exact hk
  · exact setAttr_nodup _ _ _ hk

/-- a concrete instance, evaluated by the kernel: two declarations (a string field `n1` whose value holds `<`, `&`, `"`
    and a TAB, and a field without type), written, parsed and listed -/
example :
    let qn : AttrKey → QName := fun k => ⟨[117], 97 :: Ns.dec k⟩
    let tbl : NsTable := [([117], [112])]
    let fs : List Field := [⟨[(0, [110, 49]), (1, [115, 116, 114, 105, 110, 103]), (3, [60, 38, 34, 9])]⟩, ⟨[(0, [110, 50])]⟩]
    (parseDoc (render tbl (declsTree qn ⟨[117], [114]⟩ ⟨[117], [100]⟩ fs))).map (listX qn ⟨[117], [100]⟩)
      = some (listFields fs) := by
  decide +kernel

end OdfModel.Props.C19Xml
