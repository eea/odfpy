/-
  Property C20 — the list-style builder yields one correct level definition per specification.

  Theorems about `OdfModel.EasyList` (model of odf/easyliststyle.py), for every list of specifications, every
  spacing string, both display modes and EVERY float oracle `F` (Python's `float`/`*`/`str`, which the model
  takes as a parameter).  Tied to the code by harness/c20.py (same inputs through the real functions and drv_easylist)
  and by Generated/EasyListRe.lean (the number regex and the character classes of format, unit and white space,
  re-read from the source on every run).

  The property in full, in words (no definition states it; Python's float is outside the model): for every list of
  1 to 10 non-empty specifications, every spacing that is a CSS length and both display modes, `styleFromList`
  with Python's float returns a style that the grammar accepts, with one level per specification; level `i` is
  numbered `i+1` and indented `(i+1) × spacing`; a specification containing one of `1 I i A a` gives a numbering level
  with that format, the prefix, the suffix and the display levels asked for, any other a bullet level with its first
  character.
  About the spacing: `cssSplit_number` (group 1 is in the language of the number regex and starts at the leftmost
  place where a match starts; that it is the longest match there is proved for `longestPrefix` only, `longestPrefix_max`),
  `cssSplit_unit` (the unit written is the lower-cased run of ASCII letters after it), `cssSplit_examples`.
  Proved: everything except (a) "indent i = (i+1) × spacing" as arithmetic — `indent_shape_partial` only says the two
  attributes are `F`'s strings followed by the unit (the float arithmetic and its `str()` are checked by correspondence
  and by the harness's oracle), and (b) "the grammar accepts" (Props/C20Grammar.lean; on the real library the harness's
  oracle: `automaticstyles.addElement` + serialisation).
-/
import OdfModel.EasyList
namespace OdfModel.Props.C20
open OdfModel OdfModel.Regex OdfModel.EasyList

/-- the regexes compiled in `styleFromList` have the shapes the model is written for -/
theorem regex_shapes_ok : Generated.EasyListRe.shapeOK = true := by decide +kernel

/-- the format characters are exactly `1`, `I`, `i`, `A`, `a` -/
theorem fmt_chars (c : Nat) : isFmt c = true ↔ c = 49 ∨ c = 73 ∨ c = 105 ∨ c = 65 ∨ c = 97 := by
  simp only [isFmt, Generated.EasyListRe.fmtRanges, inRanges, Bool.or_eq_true, Bool.and_eq_true, decide_eq_true_eq,
    Bool.or_false, ← Nat.le_antisymm_iff, eq_comm (b := c)]

/-- the unit characters are exactly the ASCII letters -/
theorem unit_chars (c : Nat) : isUnit c = true ↔ (97 ≤ c ∧ c ≤ 122) ∨ (65 ≤ c ∧ c ≤ 90) := by
  simp [isUnit, Generated.EasyListRe.unitRanges, inRanges]

/-- the unit is lower-cased (`cssLengthUnits = m.group(2).lower()`) -/
theorem unit_is_lowercased : Generated.EasyListRe.lowerUnit = true := by decide +kernel

/-! ### `findFmt` is "the first format character" -/

theorem findFmt_some {spec pre suf : Str} {c : Cp} (h : findFmt spec = some (pre, c, suf)) :
    spec = pre ++ [c] ++ suf ∧ isFmt c = true ∧ ∀ x ∈ pre, isFmt x = false := by
  unfold findFmt at h
  split at h
  · cases h
  · next hd =>
    cases h
    refine ⟨?_, ?_, fun x hx => ?_⟩
    · rw [List.append_assoc, List.singleton_append, ← hd, List.takeWhile_append_dropWhile]
    · simpa [hd] using List.head?_dropWhile_not (fun c => !isFmt c) spec
    · simpa using List.all_eq_true.mp List.all_takeWhile x hx

theorem findFmt_eq_none_iff {spec : Str} : findFmt spec = none ↔ ∀ x ∈ spec, isFmt x = false := by
  constructor
  · intro h
    unfold findFmt at h
    split at h
    · next hd => simpa [hd] using (List.any_dropWhile (p := fun c => !isFmt c) (l := spec)).symm
    · cases h
  · intro h
    cases hf : findFmt spec with
    | none => rfl
    | some t =>
      obtain ⟨hs, hc, _⟩ := findFmt_some hf
      rw [h t.2.1 (by rw [hs]; simp)] at hc
      cases hc

section
variable (showAll : Bool) (units base : Str) (mul : Nat → Str)

/-- the level `mkLevel` builds for a non-empty specification (the bullet of the empty one is never looked at) -/
def levelOf (i : Nat) (spec : Str) : Level where
  level := i + 1
  kind := match findFmt spec with
    | some (pre, c, suf) => .number c pre suf (if showAll then i + 1 else 1)
    | none => .bullet (spec.headD 0)
  spaceBefore := mul (i + 1) ++ units
  minLabelWidth := base ++ units

/-- the loop body raises on the empty specification (`bullet[0]`) and on nothing else -/
theorem mkLevel_eq (i : Nat) (spec : Str) :
    mkLevel showAll units base mul i spec =
      if spec = [] then .error .indexError else .ok (levelOf showAll units base mul i spec) := by
  unfold mkLevel levelOf
  cases spec with
  | nil => rfl
  | cons b r => cases findFmt (b :: r) <;> rfl

/-- the loop over the specifications in closed form: it raises iff one of them is empty, and otherwise the
    `j`-th specification gives `levelOf` at index `k + j` -/
theorem levelsFrom_eq (specs : List Str) (k : Nat) :
    levelsFrom showAll units base mul k specs =
      if [] ∈ specs then .error .indexError
      else .ok ((specs.zipIdx k).map fun p => levelOf showAll units base mul p.2 p.1) := by
  induction specs generalizing k with
  | nil => rfl
  | cons s r ih =>
    rw [levelsFrom, mkLevel_eq, ih]
    by_cases hs : s = [] <;> by_cases hr : [] ∈ r <;> simp [hs, hr, @eq_comm _ [] s]

variable {showAll units base mul} {i : Nat} {spec : Str}

theorem levelOf_number {c : Cp} {pre suf : Str} {d : Nat}
    (h : (levelOf showAll units base mul i spec).kind = .number c pre suf d) :
    findFmt spec = some (pre, c, suf) ∧ d = if showAll then i + 1 else 1 := by
  unfold levelOf at h
  cases hf : findFmt spec with
  | none => rw [hf] at h; cases h
  | some t => rw [hf] at h; cases h; exact ⟨rfl, rfl⟩

theorem levelOf_bullet {b : Cp} (h : (levelOf showAll units base mul i spec).kind = .bullet b) :
    findFmt spec = none ∧ spec.headD 0 = b := by
  unfold levelOf at h
  cases hf : findFmt spec with
  | none => rw [hf] at h; cases h; exact ⟨rfl, rfl⟩
  | some t => rw [hf] at h; cases h

end

/-- a successful call, taken apart: the number parsed, the levels from the loop, the two names -/
theorem styleFromList_ok {F : FloatOracle} {name : Str} {specs : List Str} {spacing : Str} {showAll : Bool}
    {st : ListStyle} (h : styleFromList F name specs spacing showAll = .ok st) :
    ∃ base mul units, F.parse ((cssSplit spacing).map fun p => p.1) = some (base, mul) ∧
      units = unitsOf (cssSplit spacing) ∧
      levelsFrom showAll units base mul 0 specs = .ok st.levels ∧
      st.name = makeNCName name ∧ st.displayName = name := by
  simp only [styleFromList] at h
  split at h
  · cases h
  · next base mul hF =>
    split at h
    · cases h
    · next ls hls =>
      cases h
      exact ⟨base, mul, _, hF, rfl, hls, rfl, rfl⟩

variable {F : FloatOracle} {name : Str} {specs : List Str} {spacing : Str} {showAll : Bool} {st : ListStyle}

theorem levels_eq (h : styleFromList F name specs spacing showAll = .ok st) :
    ∃ base mul, F.parse ((cssSplit spacing).map fun p => p.1) = some (base, mul) ∧ [] ∉ specs ∧
      st.levels = specs.zipIdx.map fun p => levelOf showAll (unitsOf (cssSplit spacing)) base mul p.2 p.1 := by
  obtain ⟨base, mul, _, hF, rfl, hl, _⟩ := styleFromList_ok h
  rw [levelsFrom_eq] at hl
  split at hl
  · cases hl
  · next hne => exact ⟨base, mul, hF, hne, (Except.ok.inj hl).symm⟩

/-- **C20 (one level definition per specification)** -/
theorem levels_count (h : styleFromList F name specs spacing showAll = .ok st) :
    st.levels.length = specs.length := by
  obtain ⟨_, _, _, _, hl⟩ := levels_eq h
  simp [hl]

theorem level_eq (h : styleFromList F name specs spacing showAll = .ok st)
    (i : Nat) (h1 : i < specs.length) (h2 : i < st.levels.length) :
    ∃ base mul, F.parse ((cssSplit spacing).map fun p => p.1) = some (base, mul) ∧ specs[i] ≠ [] ∧
      st.levels[i] = levelOf showAll (unitsOf (cssSplit spacing)) base mul i specs[i] := by
  obtain ⟨base, mul, hF, hne, hl⟩ := levels_eq h
  exact ⟨base, mul, hF, fun he => hne (he ▸ List.getElem_mem h1), by simp [hl]⟩

/-- **C20 (numbered 1..n in order)** -/
theorem levels_numbered (h : styleFromList F name specs spacing showAll = .ok st)
    (i : Nat) (h1 : i < specs.length) (h2 : i < st.levels.length) : st.levels[i].level = i + 1 := by
  obtain ⟨_, _, _, _, hl⟩ := level_eq h i h1 h2
  rw [hl]; rfl

def isNumber (l : Level) : Bool :=
  match l.kind with
  | .number _ _ _ _ => true
  | .bullet _ => false

/-- **C20 (numbering level iff the specification contains one of 1 I i A a)** -/
theorem number_iff (h : styleFromList F name specs spacing showAll = .ok st)
    (i : Nat) (h1 : i < specs.length) (h2 : i < st.levels.length) :
    isNumber st.levels[i] = true ↔ ∃ c ∈ specs[i], isFmt c = true := by
  obtain ⟨_, _, _, _, hl⟩ := level_eq h i h1 h2
  rw [hl]
  unfold isNumber levelOf
  cases hf : findFmt specs[i] with
  | none => simpa using findFmt_eq_none_iff.mp hf
  | some t =>
    obtain ⟨hs, hc, _⟩ := findFmt_some hf
    exact ⟨fun _ => ⟨t.2.1, by simp [hs], hc⟩, fun _ => rfl⟩

/-- **C20 (prefix / format / suffix)**: a numbering level's specification is `prefix ++ [format] ++ suffix` where
    `format` is the FIRST of the format characters in it. -/
theorem prefix_suffix (h : styleFromList F name specs spacing showAll = .ok st)
    (i : Nat) (h1 : i < specs.length) (h2 : i < st.levels.length)
    {c : Cp} {pre suf : Str} {d : Nat} (hk : st.levels[i].kind = .number c pre suf d) :
    specs[i] = pre ++ [c] ++ suf ∧ isFmt c = true ∧ ∀ x ∈ pre, isFmt x = false := by
  obtain ⟨_, _, _, _, hl⟩ := level_eq h i h1 h2
  exact findFmt_some (levelOf_number (hl ▸ hk)).1

/-- **C20 (the numbering format is written)**: the level element carries `style:num-format` = that character,
    the prefix / suffix attributes exactly when non-empty. -/
theorem num_format (l : Level) {c : Cp} {pre suf : Str} {d : Nat} (hk : l.kind = .number c pre suf d) :
    (levelAttrs l).1 = "text:list-level-style-number" ∧
    ("style:num-format", [c]) ∈ (levelAttrs l).2 ∧
    (pre ≠ [] → ("style:num-prefix", pre) ∈ (levelAttrs l).2) ∧
    (suf ≠ [] → ("style:num-suffix", suf) ∈ (levelAttrs l).2) ∧
    (pre = [] → ∀ v, ("style:num-prefix", v) ∉ (levelAttrs l).2) ∧
    (suf = [] → ∀ v, ("style:num-suffix", v) ∉ (levelAttrs l).2) := by
  simp only [levelAttrs, hk]
  -- an optional entry is in the list exactly when its string is not empty; the keys are pairwise different
  refine ⟨trivial, by simp, fun hp => ?_, fun hs => ?_, fun hp v => ?_, fun hs v => ?_⟩
  · simp [hp]
  · simp [hs]
  · subst hp; cases suf <;> simp
  · subst hs; cases pre <;> simp

/-- **C20 (all levels or one level shown, as requested)** -/
theorem display_levels (h : styleFromList F name specs spacing showAll = .ok st)
    (i : Nat) (h1 : i < specs.length) (h2 : i < st.levels.length)
    {c : Cp} {pre suf : Str} {d : Nat} (hk : st.levels[i].kind = .number c pre suf d) :
    d = if showAll then i + 1 else 1 := by
  obtain ⟨_, _, _, _, hl⟩ := level_eq h i h1 h2
  exact (levelOf_number (hl ▸ hk)).2

/-- **C20 (bullet = first character)** of a specification without a format character -/
theorem bullet_first_char (h : styleFromList F name specs spacing showAll = .ok st)
    (i : Nat) (h1 : i < specs.length) (h2 : i < st.levels.length)
    {b : Cp} (hk : st.levels[i].kind = .bullet b) :
    (∃ r, specs[i] = b :: r) ∧ ∀ x ∈ specs[i], isFmt x = false := by
  obtain ⟨_, _, _, hne, hl⟩ := level_eq h i h1 h2
  obtain ⟨hf, hb⟩ := levelOf_bullet (hl ▸ hk)
  refine ⟨?_, findFmt_eq_none_iff.mp hf⟩
  cases hs : specs[i] with
  | nil => exact absurd hs hne
  | cons b' r => rw [hs] at hb; exact ⟨r, congrArg (· :: r) hb⟩

/-- **C20 (bullet = first character, and only that)**: what follows the first character of a specification without a
    format character — a variation selector, combining marks, a keycap, a ZWJ sequence, a second astral character,
    anything — has no influence on the level: the level built for `b :: tail` is the level built for the one-character
    specification `[b]`, and its bullet is the single code point `b`. -/
theorem bullet_ignores_tail (showAll : Bool) (units base : Str) (mul : Nat → Str) (i : Nat) (b : Cp) (tail : Str)
    (hf : ∀ x ∈ b :: tail, isFmt x = false) :
    mkLevel showAll units base mul i (b :: tail) = mkLevel showAll units base mul i [b] ∧
    ∃ l, mkLevel showAll units base mul i (b :: tail) = .ok l ∧ l.kind = .bullet b := by
  have h1 := findFmt_eq_none_iff.mpr hf
  have h2 : findFmt [b] = none :=
    findFmt_eq_none_iff.mpr fun x hx => hf x (List.mem_cons.mpr (.inl (List.mem_singleton.mp hx)))
  simp [mkLevel_eq, levelOf, h1, h2]

/-- the hypotheses of `bullet_ignores_tail` are satisfiable on the inputs it is about: HEAVY CHECK MARK followed by
    VARIATION SELECTOR-16, and a keycap sequence `#` U+FE0F U+20E3 -/
theorem bullet_ignores_tail_examples :
    (∀ x ∈ [0x2714, 0xFE0F], isFmt x = false) ∧ (∀ x ∈ [0x23, 0xFE0F, 0x20E3], isFmt x = false) := by
  decide +kernel

/-- **C20 (indentation)** — partial: the two length attributes are the float oracle's strings for `i+1` times the
    number and for the number itself, followed by the unit of the spacing.  That `mul (i+1)` denotes (i+1) × the
    spacing is Python float arithmetic, outside the model (checked by the harness on every generated case). -/
theorem indent_shape_partial (h : styleFromList F name specs spacing showAll = .ok st)
    (i : Nat) (h1 : i < specs.length) (h2 : i < st.levels.length) :
    ∃ base mul units, F.parse ((cssSplit spacing).map fun p => p.1) = some (base, mul) ∧
      units = unitsOf (cssSplit spacing) ∧
      st.levels[i].spaceBefore = mul (i + 1) ++ units ∧ st.levels[i].minLabelWidth = base ++ units := by
  obtain ⟨base, mul, hF, _, hl⟩ := level_eq h i h1 h2
  exact ⟨base, mul, _, hF, rfl, by rw [hl]; exact ⟨rfl, rfl⟩⟩

/-- a non-empty specification list of non-empty specifications never fails once the number parses:
    the hypotheses of the theorems above are satisfiable for every such input -/
theorem succeeds_on_nonempty_specs {base : Str} {mul : Nat → Str}
    (hF : F.parse ((cssSplit spacing).map fun p => p.1) = some (base, mul))
    (hne : ∀ s ∈ specs, s ≠ []) : ∃ st, styleFromList F name specs spacing showAll = .ok st := by
  simp only [styleFromList, hF, levelsFrom_eq, if_neg fun h => hne [] h rfl]
  exact ⟨_, rfl⟩

example : (findFmt (Attr.lit "(a)")).isSome = true := by decide +kernel

/-! ### `cssSplit`: what `cssLengthPattern.search(spacing)` yields -/

theorem longestPrefix_spec (s : Str) (r : RE) :
    (longestPrefix r s = none → acceptsPrefix r s = false) ∧
    ∀ n, longestPrefix r s = some n →
      n ≤ s.length ∧ accepts r (s.take n) = true ∧ ∀ m, m ≤ s.length → accepts r (s.take m) = true → m ≤ n := by
  induction s generalizing r with
  | nil => cases hn : nullable r <;> simp [longestPrefix, acceptsPrefix, hn]
  | cons c t ih =>
    obtain ⟨ihnone, ihsome⟩ := ih (deriv c r)
    simp only [longestPrefix, acceptsPrefix]
    cases hl : longestPrefix (deriv c r) t with
    | some j =>
      obtain ⟨h1, h2, h3⟩ := ihsome j hl
      refine ⟨nofun, fun n hn => ?_⟩
      cases hn
      refine ⟨Nat.succ_le_succ h1, h2, fun m hm hacc => ?_⟩
      cases m with
      | zero => omega
      | succ k => exact Nat.succ_le_succ (h3 k (Nat.le_of_succ_le_succ hm) hacc)
    | none =>
      have hno := ihnone hl
      cases hnull : nullable r
      · simp [hno]
      · refine ⟨nofun, fun n hn => ?_⟩
        cases hn
        refine ⟨Nat.zero_le _, hnull, fun m hm hacc => ?_⟩
        cases m with
        | zero => omega
        | succ k =>
          -- a longer match would be a matching prefix of the rest
          rw [(acceptsPrefix_iff _ _).mpr ⟨t.take k, t.drop k, by simp, hacc⟩] at hno
          cases hno

/-- maximality of `longestPrefix`; not lifted to `searchLongest` / `cssSplit`, whose theorems state membership and
    the leftmost start only -/
theorem longestPrefix_max : ∀ (s : Str) (r : RE) (n : Nat), longestPrefix r s = some n →
    ∀ m, m ≤ s.length → accepts r (s.take m) = true → m ≤ n :=
  fun s r n h => ((longestPrefix_spec s r).2 n h).2.2

theorem searchLongest_spec {s : Str} {r : RE} {pre g post : Str} (h : searchLongest r s = some (pre, g, post)) :
    s = pre ++ g ++ post ∧ accepts r g = true ∧ ∀ k, k < pre.length → acceptsPrefix r (s.drop k) = false := by
  fun_induction searchLongest r s generalizing pre with
  | case1 hn => cases h; exact ⟨rfl, hn, nofun⟩
  | case2 => cases h
  | case3 c t n hl =>
    cases h
    exact ⟨(List.take_append_drop n _).symm, ((longestPrefix_spec _ r).2 n hl).2.1, nofun⟩
  | case4 c t hl pre' g' post' hs ih =>
    cases h
    obtain ⟨h1, h2, h3⟩ := ih hs
    refine ⟨by rw [h1]; rfl, h2, fun k hk => ?_⟩
    cases k with
    | zero => exact (longestPrefix_spec _ r).1 hl
    | succ j => exact h3 j (Nat.lt_of_succ_lt_succ hk)
  | case5 => cases h

theorem cssSplit_some {spacing g u : Str} (h : cssSplit spacing = some (g, u)) :
    ∃ pre post, searchLongest Generated.EasyListRe.numRE spacing = some (pre, g, post) ∧
      u = unitCase ((post.dropWhile isSpace).takeWhile isUnit) := by
  unfold cssSplit at h
  split at h
  · cases h
  · next pre _ post hs =>
    cases h
    exact ⟨pre, post, hs, rfl⟩

/-- **group 1 is a number of the regex, cut out of the spacing at the leftmost place where one starts** -/
theorem cssSplit_number {spacing g u : Str} (h : cssSplit spacing = some (g, u)) :
    accepts Generated.EasyListRe.numRE g = true ∧
    ∃ pre post, spacing = pre ++ g ++ post ∧
      ∀ k, k < pre.length → acceptsPrefix Generated.EasyListRe.numRE (spacing.drop k) = false := by
  obtain ⟨pre, post, hs, _⟩ := cssSplit_some h
  obtain ⟨h1, h2, h3⟩ := searchLongest_spec hs
  exact ⟨h2, pre, post, h1, h3⟩

/-- ASCII letters are lower-cased to `a`–`z` by the probed `str.lower()` table -/
theorem lower_unit_table :
    ((List.range 128).all fun c => !isUnit c || (decide (97 ≤ Attr.lowerCp c) && decide (Attr.lowerCp c ≤ 122))) = true := by
  decide +kernel

/-- **the unit that is written is in lower case**: it is the lower-cased run of ASCII letters that follows the number
    (after optional white space) -/
theorem cssSplit_unit {spacing g u : Str} (h : cssSplit spacing = some (g, u)) :
    (∃ raw, (∀ c ∈ raw, isUnit c = true) ∧ u = Attr.lower raw) ∧ ∀ c ∈ u, 97 ≤ c ∧ c ≤ 122 := by
  obtain ⟨_, post, _, hu⟩ := cssSplit_some h
  have hraw : ∀ c ∈ (post.dropWhile isSpace).takeWhile isUnit, isUnit c = true :=
    List.all_eq_true.mp List.all_takeWhile
  have hcase : u = Attr.lower ((post.dropWhile isSpace).takeWhile isUnit) := by
    rw [hu]; simp [unitCase, unit_is_lowercased]
  refine ⟨⟨_, hraw, hcase⟩, ?_⟩
  intro c hc
  rw [hcase] at hc
  simp only [Attr.lower, List.mem_map] at hc
  obtain ⟨x, hx, rfl⟩ := hc
  have hxu := hraw x hx
  have hlt : x < 128 := by
    rcases (unit_chars x).mp hxu with h' | h' <;> omega
  have := List.all_eq_true.mp lower_unit_table x (List.mem_range.mpr hlt)
  simpa [hxu] using this

/-- an upper-case unit, an exponent, and the other forms the property's "every CSS length" covers -/
theorem cssSplit_examples :
    cssSplit (Attr.lit "1CM") = some (Attr.lit "1", Attr.lit "cm") ∧
    cssSplit (Attr.lit "1e1mm") = some (Attr.lit "1e1", Attr.lit "mm") ∧
    cssSplit (Attr.lit "2.5E-1Pt") = some (Attr.lit "2.5E-1", Attr.lit "pt") ∧
    cssSplit (Attr.lit "+.5 In") = some (Attr.lit "+.5", Attr.lit "in") ∧
    cssSplit (Attr.lit "-12.75em") = some (Attr.lit "-12.75", Attr.lit "em") ∧
    cssSplit (Attr.lit "3") = some (Attr.lit "3", []) ∧
    cssSplit (Attr.lit "cm") = none := by decide +kernel

theorem splitAux_ne_nil (d : Str) (fuel : Nat) (cur s : Str) : splitAux d fuel cur s ≠ [] := by
  fun_induction splitAux d fuel cur s <;> simp [*]

theorem join_cons (d x : Str) {l : List Str} (h : l ≠ []) : join d (x :: l) = x ++ d ++ join d l := by
  cases l with
  | nil => exact absurd rfl h
  | cons y r => rfl

theorem splitAux_join (d : Str) (hd : d ≠ []) (fuel : Nat) (cur s : Str) (h : s.length < fuel) :
    join d (splitAux d fuel cur s) = cur ++ s := by
  fun_induction splitAux d fuel cur s with
  | case1 => omega
  | case2 => simp [join]
  | case3 fuel cur c r hp ih =>
    have happ : d ++ (c :: r).drop d.length = c :: r :=
      List.prefix_iff_eq_append.mp (List.isPrefixOf_iff_prefix.mp hp)
    have hdl : 0 < d.length := List.length_pos_iff.mpr hd
    rw [join_cons d cur (splitAux_ne_nil d fuel [] _), ih (by simp only [List.length_drop, List.length_cons] at h ⊢; omega),
      List.nil_append, List.append_assoc, happ]
  | case4 fuel cur c r hp ih =>
    rw [ih (by simp at h; omega)]; simp

/-- **C20 (string form)**: for a non-empty delimiter, joining the pieces with the delimiter gives the string back:
    `split` loses nothing.  (Where it cuts is not stated: `[s]` would satisfy the equation too.) -/
theorem split_join (d s : Str) (hd : d ≠ []) : join d (split d s) = s := by
  simpa [split] using splitAux_join d hd (s.length + 1) [] s (by omega)

/-- `styleFromString` is `styleFromList` on the pieces -/
theorem string_form (F : FloatOracle) (name specifiers delim spacing : Str) (showAll : Bool) (hd : delim ≠ []) :
    styleFromString F name specifiers delim spacing showAll =
      styleFromList F name (split delim specifiers) spacing showAll := by
  cases delim with
  | nil => exact absurd rfl hd
  | cons a b => simp [styleFromString]

end OdfModel.Props.C20
