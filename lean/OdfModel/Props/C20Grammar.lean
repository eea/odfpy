/-
  Property C20, clause "returns a list style the grammar accepts" — cross-layer: EasyList × GrammarApi × AttrConv.

  `EasyList.callsOf st` (OdfModel/EasyListCalls.lean) is the sequence of grammar-relevant API calls odf/easyliststyle.py
  makes while it builds the element the model describes as `st`: the factory calls with their keywords, the
  `setAttribute` calls, StyleElement's `setAttrNS`, and the two `addElement` calls per level.  Each of them can raise in
  the real library (IllegalChild; AttributeError for an unknown keyword or a missing required attribute; ValueError from
  the value converter).  Here every one of them is shown to succeed

    * in `GrammarApi` over `Generated.GrammarTables.tables`  (odf/grammar.py, regenerated on every run)  — `grammar_accepts`
    * in `AttrConv`  over `Generated.AttrTable.bindings`      (odf/attrconverters.py, regenerated)         — `values_accepted`

  The ids come from Generated/EasyListIds.lean (looked up by harness/c20.py in the current name tables); `ids_*` prove
  that each id names the element / attribute its identifier says, in both id spaces, so a wrong id cannot slip through.
  harness/c20.py compares `callsOf` (driver command `calls`) with a trace of the real function: same calls, same order,
  same keywords, same values, and the attributes / children of the returned tree are what the calls store.

  The clause in full, in words (no definition states it; Python's float is outside the model): for every name, every
  list of 1 to 10 non-empty specifications, every spacing that is a CSS length and both display modes, `styleFromList`
  with Python's float returns an element, and no call made on the way raises.
  `grammar_accepts` + `values_accepted` + `C20.succeeds_on_nonempty_specs` give this for every float oracle that does not
  raise; nothing here depends on WHICH strings the oracle returns, because the converter the table binds to
  text:space-before and text:min-label-width is identity-shaped (`cnv_string`; `length_attrs_unchecked`).  If the table
  ever bound `cnv_length` there, `values_accepted` would stop building, and acceptance would depend on `FloatOracle`
  (Python's `str(float)` can print `1e+16`, `inf`, `nan`, and a negative or unit-less spacing is not a `length`).
  What is NOT claimed: that the stored values are valid against the *schema's* datatypes (nonNegativeLength for the two
  length attributes) — the library does not check that, and for a negative spacing it is false.
-/
import OdfModel.EasyListCalls
import OdfModel.GrammarApi
import OdfModel.AttrConv
import OdfModel.Generated.GrammarTables
import OdfModel.Generated.GrammarNames
import OdfModel.Generated.AttrTable
import OdfModel.Generated.AttrSchema
import OdfModel.Props.C20
namespace OdfModel.Props.C20Grammar
open OdfModel OdfModel.EasyList OdfModel.GrammarApi OdfModel.GrammarNamesCodec
open OdfModel.Generated.EasyListIds

abbrev T : Tables := Generated.GrammarTables.tables

/-- the four element ids, in the grammar's name table -/
theorem ids_elements :
    Generated.GrammarNames.elemName[eListStyle]? = some (n!"text:list-style") ∧
    Generated.GrammarNames.elemName[eNumber]? = some (n!"text:list-level-style-number") ∧
    Generated.GrammarNames.elemName[eBullet]? = some (n!"text:list-level-style-bullet") ∧
    Generated.GrammarNames.elemName[eProps]? = some (n!"style:list-level-properties") := by decide +kernel

/-- the ten attribute ids, in the grammar's name table -/
theorem ids_attributes :
    Generated.GrammarNames.attrName[aStyleName]? = some (n!"style:name") ∧
    Generated.GrammarNames.attrName[aDisplayName]? = some (n!"style:display-name") ∧
    Generated.GrammarNames.attrName[aLevel]? = some (n!"text:level") ∧
    Generated.GrammarNames.attrName[aNumFormat]? = some (n!"style:num-format") ∧
    Generated.GrammarNames.attrName[aNumPrefix]? = some (n!"style:num-prefix") ∧
    Generated.GrammarNames.attrName[aNumSuffix]? = some (n!"style:num-suffix") ∧
    Generated.GrammarNames.attrName[aDisplayLevels]? = some (n!"text:display-levels") ∧
    Generated.GrammarNames.attrName[aBulletChar]? = some (n!"text:bullet-char") ∧
    Generated.GrammarNames.attrName[aSpaceBefore]? = some (n!"text:space-before") ∧
    Generated.GrammarNames.attrName[aMinLabelWidth]? = some (n!"text:min-label-width") := by decide +kernel

/-- the keyword the grammar tables derive for each attribute (`a[1].lower().replace('-','')`) is the literal the
    source of easyliststyle.py writes -/
theorem ids_keywords :
    kwOf T aStyleName = kwName ∧ kwOf T aLevel = kwLevel ∧ kwOf T aNumFormat = kwNumFormat ∧
    kwOf T aNumPrefix = kwNumPrefix ∧ kwOf T aNumSuffix = kwNumSuffix ∧ kwOf T aDisplayLevels = kwDisplayLevels ∧
    kwOf T aBulletChar = kwBulletChar ∧ kwOf T aSpaceBefore = kwSpaceBefore ∧
    kwOf T aMinLabelWidth = kwMinLabelWidth := by decide +kernel

/-- code points of the qualified name (`namespace local`) number `i` of the converter table's name list -/
def convName (i : Nat) : Option (List Char) := (Generated.AttrSchema.qnames[i]?).map String.toList

/-- lets an evaluation compare `String`s (an entry of `qnames` with a literal) where the statement has lists of `Char` -/
theorem convName_of_get {i : Nat} {s : String} (h : Generated.AttrSchema.qnames[i]? = some s) :
    convName i = some s.toList := by
  simp [convName, h]

/-- the same fourteen names in the id space of the converter table -/
theorem ids_converter_space :
    convName cListStyle = some "urn:oasis:names:tc:opendocument:xmlns:text:1.0 list-style".toList ∧
    convName cNumber = some "urn:oasis:names:tc:opendocument:xmlns:text:1.0 list-level-style-number".toList ∧
    convName cBullet = some "urn:oasis:names:tc:opendocument:xmlns:text:1.0 list-level-style-bullet".toList ∧
    convName cProps = some "urn:oasis:names:tc:opendocument:xmlns:style:1.0 list-level-properties".toList ∧
    convName cStyleName = some "urn:oasis:names:tc:opendocument:xmlns:style:1.0 name".toList ∧
    convName cDisplayName = some "urn:oasis:names:tc:opendocument:xmlns:style:1.0 display-name".toList ∧
    convName cLevel = some "urn:oasis:names:tc:opendocument:xmlns:text:1.0 level".toList ∧
    convName cNumFormat = some "urn:oasis:names:tc:opendocument:xmlns:style:1.0 num-format".toList ∧
    convName cNumPrefix = some "urn:oasis:names:tc:opendocument:xmlns:style:1.0 num-prefix".toList ∧
    convName cNumSuffix = some "urn:oasis:names:tc:opendocument:xmlns:style:1.0 num-suffix".toList ∧
    convName cDisplayLevels = some "urn:oasis:names:tc:opendocument:xmlns:text:1.0 display-levels".toList ∧
    convName cBulletChar = some "urn:oasis:names:tc:opendocument:xmlns:text:1.0 bullet-char".toList ∧
    convName cSpaceBefore = some "urn:oasis:names:tc:opendocument:xmlns:text:1.0 space-before".toList ∧
    convName cMinLabelWidth = some "urn:oasis:names:tc:opendocument:xmlns:text:1.0 min-label-width".toList := by
  -- fourteen entries of `qnames`, each compared with its literal by evaluation
  and_intros <;> exact convName_of_get (by decide +kernel)

/-- `setAttribute(kw, …)` on `e` does not raise and stores the attribute the code means -/
def setsTo (e kw a : Nat) : Bool :=
  match setAttribute T true e kw with
  | .ok b => b == a
  | .error _ => false

/-- the constructor with these keywords does not raise (every keyword accepted, no required attribute missing) and
    every keyword resolves to the intended attribute -/
def ctorOk (e : Nat) (kws : List (Nat × Nat)) : Bool :=
  (match constructKw T true e [] (kws.map (·.1)) with
   | .ok _ => true
   | .error _ => false) && kws.all (fun k => setsTo e k.1 k.2)

/-- the grammar lists attribute `a` for element `e` (`setAttrNS` itself checks nothing) -/
def listsAttr (e a : Nat) : Bool :=
  match allowedAttrsOf T e with
  | some l => l.contains a
  | none => false

def childOk (p c : Nat) : Bool :=
  match addElement T true p c with
  | .ok _ => true
  | .error _ => false

/-- the call succeeds in the GrammarApi model over the regenerated tables -/
def grammarOk : Call → Bool
  | .construct e kws => ctorOk e (kws.map fun k => (k.kw, k.attr))
  | .setAttribute e k => setsTo e k.kw k.attr
  | .setAttrNS e a _ => listsAttr e a
  | .addElement p c => childOk p c

/-- The finitely many shapes of a call, each a closed fact about the tables, and after them the refusals of
    `required_are_demanded`.  One evaluation for all of them: they look up the same four rows of the tables. -/
theorem shapes :
    (ctorOk eListStyle [(kwName, aStyleName)] = true ∧ listsAttr eListStyle aDisplayName = true) ∧
    (ctorOk eNumber [(kwLevel, aLevel), (kwNumFormat, aNumFormat)] = true ∧
      setsTo eNumber kwNumPrefix aNumPrefix = true ∧ setsTo eNumber kwNumSuffix aNumSuffix = true ∧
      setsTo eNumber kwDisplayLevels aDisplayLevels = true) ∧
    ctorOk eBullet [(kwLevel, aLevel), (kwBulletChar, aBulletChar)] = true ∧
    (ctorOk eProps [] = true ∧ setsTo eProps kwSpaceBefore aSpaceBefore = true ∧
      setsTo eProps kwMinLabelWidth aMinLabelWidth = true) ∧
    (childOk eNumber eProps = true ∧ childOk eBullet eProps = true ∧
      childOk eListStyle eNumber = true ∧ childOk eListStyle eBullet = true) ∧
    (requiresAttr T eNumber aLevel = true ∧
      requiresAttr T eBullet aLevel = true ∧ requiresAttr T eBullet aBulletChar = true ∧
      ctorOk eNumber [(kwNumFormat, aNumFormat)] = false ∧ ctorOk eBullet [(kwLevel, aLevel)] = false ∧
      ctorOk eProps [(kwLevel, aLevel)] = false ∧ setsTo eBullet kwNumFormat aNumFormat = false ∧
      childOk eProps eNumber = false ∧ childOk eListStyle eProps = false) := by decide +kernel

/-- the constructors really have something to check: both level elements REQUIRE text:level, the bullet level also
    text:bullet-char (odf/grammar.py does not require style:num-format on the numbering level; the builder passes
    it all the same); a level built without them, a keyword of another element, or a child in the wrong
    place is refused by the same model (so the `shapes` facts are not vacuous) -/
theorem required_are_demanded :
    requiresAttr T eNumber aLevel = true ∧
    requiresAttr T eBullet aLevel = true ∧ requiresAttr T eBullet aBulletChar = true ∧
    ctorOk eNumber [(kwNumFormat, aNumFormat)] = false ∧ ctorOk eBullet [(kwLevel, aLevel)] = false ∧
    ctorOk eProps [(kwLevel, aLevel)] = false ∧ setsTo eBullet kwNumFormat aNumFormat = false ∧
    childOk eProps eNumber = false ∧ childOk eListStyle eProps = false := by
  obtain ⟨-, -, -, -, -, refusals⟩ := shapes
  exact refusals

theorem forall_levelsCalls {P : Call → Prop} (h : ∀ l, ∀ c ∈ callsOfLevel l, P c) :
    ∀ ls, ∀ c ∈ levelsCalls ls, P c
  | [] => by simp [levelsCalls]
  | l :: r => by
    simp only [levelsCalls, List.forall_mem_append]
    exact ⟨h l, forall_levelsCalls h r⟩

theorem level_calls_ok (l : Level) : ∀ c ∈ callsOfLevel l, grammarOk c = true := by
  obtain ⟨-, ⟨h1, h2, h3, h4⟩, hb, ⟨p1, p2, p3⟩, ⟨c1, c2, c3, c4⟩, -⟩ := shapes
  rcases l with ⟨lv, kind, sb, mw⟩
  cases kind with
  | number ch pre suf d =>
    simp only [callsOfLevel, levelHeadCalls, levelElem, List.forall_mem_append, List.forall_mem_cons, grammarOk]
    -- the prefix and the suffix are set only when not empty: four call sequences, each made of `shapes` facts
    cases pre.isEmpty <;> cases suf.isEmpty <;> simp [*]
  | bullet b => simp [callsOfLevel, levelHeadCalls, levelElem, grammarOk, *]

/-- every call made for ANY list-style value of the model is accepted (acceptance does not look at the values) -/
theorem calls_ok (st : ListStyle) : ∀ c ∈ callsOf st, grammarOk c = true := by
  obtain ⟨s1, s2⟩ := shapes.1
  simp only [callsOf, List.forall_mem_append, List.forall_mem_cons, grammarOk]
  exact ⟨⟨s1, s2, by simp⟩, forall_levelsCalls level_calls_ok st.levels⟩

/-- **C20 (the grammar accepts the list style)**: for every result of `styleFromList` — every specification list, spacing,
    display mode and float oracle — every factory call, `setAttribute`, `setAttrNS` and `addElement` the real function
    makes on the way succeeds in the model of odf/element.py's grammar checks over the tables regenerated from
    odf/grammar.py: each keyword is accepted and resolves to the intended attribute, no required attribute is missing
    when a constructor returns, style:display-name is an attribute the grammar lists for text:list-style, and each
    child is allowed under its parent. -/
theorem grammar_accepts {F : FloatOracle} {name : Str} {specs : List Str} {spacing : Str} {showAll : Bool}
    {st : ListStyle} (_h : styleFromList F name specs spacing showAll = .ok st) :
    ∀ c ∈ callsOf st, grammarOk c = true := calls_ok st

/-- the call sequence has the expected size: two calls for the list style, then per level 6 calls for a bullet and
    7–9 for a numbering level (so `grammar_accepts` speaks about at least 6 calls per specification) -/
theorem calls_per_level (l : Level) : 6 ≤ (callsOfLevel l).length ∧ (callsOfLevel l).length ≤ 9 := by
  rcases l with ⟨lv, kind, sb, mw⟩
  cases kind with
  | number ch pre suf d =>
    simp only [callsOfLevel, levelHeadCalls]
    cases pre.isEmpty <;> cases suf.isEmpty <;> simp
  | bullet b => simp [callsOfLevel, levelHeadCalls]

/-- grammar id → converter-table id, for the names of `ids_converter_space`.  An id outside the fourteen falls through
    to the last branch; harmless, because `convert` is asked only about the ids that occur in `callsOf`. -/
def convElem (e : Nat) : Nat :=
  if e = eListStyle then cListStyle else if e = eNumber then cNumber else if e = eBullet then cBullet else cProps

def convAttr (a : Nat) : Nat :=
  if a = aStyleName then cStyleName else if a = aDisplayName then cDisplayName else if a = aLevel then cLevel
  else if a = aNumFormat then cNumFormat else if a = aNumPrefix then cNumPrefix else if a = aNumSuffix then cNumSuffix
  else if a = aDisplayLevels then cDisplayLevels else if a = aBulletChar then cBulletChar
  else if a = aSpaceBefore then cSpaceBefore else cMinLabelWidth

/-- the (element, attribute, value) triples a call hands to `setAttrNS` (the converter runs there) -/
def storesOf : Call → List (Nat × Nat × Str)
  | .construct e kws => kws.map fun k => (e, k.attr, k.value)
  | .setAttribute e k => [(e, k.attr, k.value)]
  | .setAttrNS e a v => [(e, a, v)]
  | .addElement _ _ => []

/-- what `AttrConverters.convert` returns for attribute `a` on element `e` (grammar ids) -/
def convert (e a : Nat) (v : Str) : Except Attr.Err Str :=
  Attr.setAttr Generated.AttrTable.bindings (convAttr a) (convElem e) v

/-- one stored triple: accepted, and the stored value is the given one except for style:name, which is stored as
    `makeNCName` of it -/
def storeOk (t : Nat × Nat × Str) : Prop :=
  convert t.1 t.2.1 t.2.2 = .ok (if t.2.1 = aStyleName then makeNCName t.2.2 else t.2.2)

/-- attribute `a` on element `e` is stored as given: the table binds an identity-shaped converter (`cnv_string`,
    `cnv_positiveInteger` = `str(arg)`) to it, and it is not style:name -/
def plain (e a : Nat) : Bool :=
  a != aStyleName && Attr.kindOf (Attr.convertIdx Generated.AttrTable.bindings (convAttr a) (convElem e)) == .identity

theorem storeOk_of_plain {e a : Nat} (h : plain e a = true) (v : Str) : storeOk (e, a, v) := by
  simp only [plain, Bool.and_eq_true, bne_iff_ne, ne_eq, beq_iff_eq] at h
  simp [storeOk, convert, Attr.setAttr, Attr.cnv, Attr.cnvK, h.1, h.2]

/-- every attribute the builder sets except style:name is stored as given — read off the regenerated tables -/
theorem plain_pairs :
    plain eListStyle aDisplayName = true ∧ plain eNumber aLevel = true ∧ plain eNumber aNumFormat = true ∧
    plain eNumber aNumPrefix = true ∧ plain eNumber aNumSuffix = true ∧ plain eNumber aDisplayLevels = true ∧
    plain eBullet aLevel = true ∧ plain eBullet aBulletChar = true ∧ plain eProps aSpaceBefore = true ∧
    plain eProps aMinLabelWidth = true := by decide +kernel

/-- style:name goes through `cnv_NCName` (`hexEscape [58, 32]`: replaces ':' and ' '), which is the model's `makeNCName` -/
theorem name_converter :
    Attr.kindOf (Attr.convertIdx Generated.AttrTable.bindings (convAttr aStyleName) (convElem eListStyle)) =
      .hexEscape [58, 32] := by decide +kernel

theorem storeOk_name (v : Str) : storeOk (eListStyle, aStyleName, v) := by
  simp [storeOk, convert, Attr.setAttr, Attr.cnv, name_converter, Attr.cnvK, makeNCName, List.foldl]

/-- in particular the two length attributes are NOT checked by the library (`cnv_string`, not `cnv_length`): this is why
    `values_accepted` holds for every float oracle -/
theorem length_attrs_unchecked (v : Str) :
    convert eProps aSpaceBefore v = .ok v ∧ convert eProps aMinLabelWidth v = .ok v := by
  obtain ⟨_, _, _, _, _, _, _, _, h9, h10⟩ := plain_pairs
  have a := storeOk_of_plain h9 v
  have b := storeOk_of_plain h10 v
  simp only [plain, Bool.and_eq_true, bne_iff_ne, ne_eq] at h9 h10
  simpa [storeOk, h9.1, h10.1] using And.intro a b

theorem level_values_ok (l : Level) : ∀ c ∈ callsOfLevel l, ∀ t ∈ storesOf c, storeOk t := by
  obtain ⟨_, n1, n2, n3, n4, n5, b1, b2, p1, p2⟩ := plain_pairs
  rcases l with ⟨lv, kind, sb, mw⟩
  cases kind with
  | number ch pre suf d =>
    -- with or without prefix and suffix: list the stores of the calls, then each is a plain pair
    cases hp : pre.isEmpty <;> cases hs : suf.isEmpty <;>
      simp only [callsOfLevel, levelHeadCalls, levelElem, hp, hs, if_true, if_false, Bool.false_eq_true, storesOf,
        List.append_nil, List.cons_append, List.nil_append, List.map_cons, List.map_nil, List.forall_mem_cons,
        List.not_mem_nil, false_imp_iff, implies_true, and_true] <;>
      simp only [storeOk_of_plain, n1, n2, n3, n4, n5, p1, p2, and_self]
  | bullet b =>
    simp only [callsOfLevel, levelHeadCalls, levelElem, storesOf, List.cons_append, List.nil_append, List.map_cons,
      List.map_nil, List.forall_mem_cons, List.not_mem_nil, false_imp_iff, implies_true, and_true]
    simp only [storeOk_of_plain, b1, b2, p1, p2, and_self]

theorem values_ok (st : ListStyle) : ∀ c ∈ callsOf st, ∀ t ∈ storesOf c, storeOk t := by
  simp only [callsOf, List.forall_mem_append, List.forall_mem_cons, storesOf, List.map_cons, List.map_nil,
    List.not_mem_nil, false_imp_iff, implies_true, and_true]
  exact ⟨⟨storeOk_name _, storeOk_of_plain plain_pairs.1 _⟩, forall_levelsCalls level_values_ok st.levels⟩

/-- **C20 (the values are accepted)**: every value handed to `setAttrNS` on the way — by a keyword of a factory call, by
    `setAttribute`, or by StyleElement for style:display-name — passes the converter that the regenerated
    `attrconverters` table binds to that attribute on that element (`AttrConverters.convert`: `(attr, element)`, then
    `(attr, None)`, then `str`), so no ValueError is raised; the stored value is the given string, except style:name,
    stored as `make_NCName` of the given name (= `st.name`).  Holds for EVERY float oracle: no converter involved looks
    at the strings `F` produced (`plain_pairs`, `length_attrs_unchecked`).  Integer arguments (`level=(i+1)`,
    `displayLevels`) are modelled by their `str()`; `C20.levels_numbered` / `C20.display_levels` say which positive
    integers they are. -/
theorem values_accepted {F : FloatOracle} {name : Str} {specs : List Str} {spacing : Str} {showAll : Bool}
    {st : ListStyle} (_h : styleFromList F name specs spacing showAll = .ok st) :
    ∀ c ∈ callsOf st, ∀ t ∈ storesOf c, storeOk t := values_ok st

/-- the name stored on the returned element is the model's `st.name` -/
theorem name_stored {F : FloatOracle} {name : Str} {specs : List Str} {spacing : Str} {showAll : Bool}
    {st : ListStyle} (h : styleFromList F name specs spacing showAll = .ok st) :
    convert eListStyle aStyleName st.displayName = .ok st.name := by
  obtain ⟨_, _, _, _, _, _, hn, hd⟩ := C20.styleFromList_ok h
  simpa [storeOk, hn, hd] using storeOk_name st.displayName

/-! ### the hypotheses are satisfiable: a concrete three-level style (numbering with prefix and suffix, bullet,
    bare numbering) and its 24 calls, all accepted -/

def exF : FloatOracle := ⟨fun _ => some (Attr.lit "0.6", fun k => Attr.lit (if k = 1 then "0.6" else if k = 2 then "1.2" else "1.8"))⟩

def exSpecs : List Str := [Attr.lit "(1)", Attr.lit "*", Attr.lit "a"]

/-- what the example computes: level count, number of calls, all calls accepted, the stored style:name -/
def exSummary : Option (Nat × Nat × Bool × Str) :=
  match styleFromList exF (Attr.lit "My List") exSpecs (Attr.lit "0.6cm") true with
  | .ok st => some (st.levels.length, (callsOf st).length, (callsOf st).all grammarOk, st.name)
  | .error _ => none

example : exSummary = some (3, 24, true, Attr.lit "My_20_List") := by decide +kernel
end OdfModel.Props.C20Grammar
