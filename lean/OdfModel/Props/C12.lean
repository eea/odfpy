/-
  Property C12 — producing output never changes the document and is repeatable.

  Theorems about `OdfModel.Render` (the seven output calls as state transformers with an infoset
  output).  The snapshot of a document is the whole `Doc` value (tree of every container, pictures,
  child objects, thumbnail, extra members), so every query that is a function of the document is
  covered by `queries_pure`.  Tie: correspondence run of harness/c12.py (same call sequences on the
  real library and on `drv_render`, document dump after every call and every output compared).
-/
import OdfModel.Render
namespace OdfModel.Props.C12
open OdfModel OdfModel.Styles OdfModel.Render

theorem isGen_genNode (tv : Str) : isGen (genNode tv) = true := by simp [genNode, isGen]

theorem normMeta_idempotent (tv : Str) (m : Node) : normMeta tv (normMeta tv m) = normMeta tv m := by
  cases m <;> simp [normMeta, List.filter_append, isGen_genNode]

theorem normGen_idempotent (tv : Str) (d : Doc) : normGen tv (normGen tv d) = normGen tv d := by
  simp [normGen, normMeta_idempotent]

/-- normalisation touches nothing but the children of `office:meta` … -/
theorem normGen_only_meta (tv : Str) (d : Doc) :
    (normGen tv d).mimetype = d.mimetype ∧ (normGen tv d).topAttrs = d.topAttrs ∧
    (normGen tv d).part = d.part ∧ (normGen tv d).pictures = d.pictures ∧
    (normGen tv d).objects = d.objects ∧ (normGen tv d).thumbnail = d.thumbnail ∧
    (normGen tv d).extras = d.extras := by
  simp [normGen]

/-- … and there only the generator elements: every other child of `office:meta` is kept, in order,
    the old generators are gone and exactly one fresh generator is the last child. -/
theorem normGen_meta (tv : Str) (n : Nat) (a : Attrs) (ks : List Node) (d : Doc) (h : d.metaEl = .elem n a ks) :
    (normGen tv d).metaEl = .elem n a (ks.filter (fun k => !isGen k) ++ [genNode tv]) ∧
    (kidsOf (normGen tv d).metaEl).filter (fun k => !isGen k) = ks.filter (fun k => !isGen k) ∧
    (kidsOf (normGen tv d).metaEl).filter isGen = [genNode tv] := by
  simp [normGen, h, normMeta, kidsOf, List.filter_append, isGen_genNode]

/-- a document whose generator is already the normal one (last child, no other generator) is a
    fixed point: for such documents the output calls change nothing at all -/
theorem normGen_fixed (tv : Str) (n : Nat) (a : Attrs) (ks : List Node) (d : Doc)
    (h : d.metaEl = .elem n a (ks ++ [genNode tv])) (hk : ∀ k ∈ ks, isGen k = false) : normGen tv d = d := by
  have hf : ks.filter (fun k => !isGen k) = ks := List.filter_eq_self.mpr fun k hk' => by simp [hk k hk']
  rw [normGen, h, normMeta, List.filter_append, hf]
  simp [isGen_genNode, ← h]

/-! ### every call normalises the generator or does nothing; every output reads the normalised document -/

/-- the states a history of output calls that starts at `d` can be in -/
def Near (tv : Str) (d e : Doc) : Prop := e = d ∨ e = normGen tv d

theorem Near.step {tv : Str} {d e : Doc} {f : Doc → Doc} (hf : ∀ x, Near tv x (f x)) (h : Near tv d e) :
    Near tv d (f e) := by
  rcases h with rfl | rfl
  · exact hf e
  · rcases hf (normGen tv d) with h | h
    · exact Or.inr h
    · exact Or.inr (by rw [h, normGen_idempotent])

theorem step_cases (c : Render.Cfg) (op : Op) (d : Doc) : step c op d = d ∨ step c op d = normGen c.tv d := by
  unfold step; split <;> simp

theorem near_run (c : Render.Cfg) (ops : List Op) {d e : Doc} (h : Near c.tv d e) : Near c.tv d (run c ops e) := by
  induction ops generalizing e with
  | nil => exact h
  | cons op r ih => exact ih (h.step (step_cases c op))

/-- **C12 (purity)**: for ALL sequences of output calls, the document afterwards is the document
    before, or the document before with its generator normalised — nothing else can change.
    (snapshot = the whole `Doc`.) -/
theorem render_pure (c : Render.Cfg) (ops : List Op) (d : Doc) :
    run c ops d = d ∨ run c ops d = normGen c.tv d :=
  near_run c ops (Or.inl rfl)

/-- **C12 (queries)**: whatever a query computes from the document, after any sequence of output
    calls it returns what it returned before, or what it returns on the generator-normalised document. -/
theorem queries_pure {α : Type} (q : Doc → α) (c : Render.Cfg) (ops : List Op) (d : Doc) :
    q (run c ops d) = q d ∨ q (run c ops d) = q (normGen c.tv d) := by
  rcases render_pure c ops d with h | h <;> simp [h]

/-- queries that do not look at `office:meta` are not affected at all -/
theorem nonmeta_pure (c : Render.Cfg) (ops : List Op) (d : Doc) :
    (run c ops d).part = d.part ∧ (run c ops d).objects = d.objects ∧
    (run c ops d).pictures = d.pictures ∧ (run c ops d).topAttrs = d.topAttrs ∧
    (run c ops d).thumbnail = d.thumbnail ∧ (run c ops d).extras = d.extras ∧
    (run c ops d).mimetype = d.mimetype := by
  rcases render_pure c ops d with h | h <;> simp [h, normGen]

/-- the pure calls really are pure, the others normalise -/
theorem pure_calls (c : Render.Cfg) (d : Doc) :
    step c .contentxml d = d ∧ step c .stylesxml d = d ∧ step c .settingsxml d = d ∧
    step c .xml d = normGen c.tv d ∧ step c .metaxml d = normGen c.tv d ∧
    step c .save d = normGen c.tv d ∧ step c .write d = normGen c.tv d := by
  simp [step, Op.normalises]

/-- an output does not depend on whether the generator was already normalised: the outputs that
    contain `office:meta` normalise first, the others do not contain it -/
theorem out_normGen (c : Render.Cfg) (op : Op) (d : Doc) : out c op (normGen c.tv d) = out c op d := by
  cases op
  -- these normalise first, and normalising twice is normalising once
  case xml | metaxml | save | write => simp only [out, normGen_idempotent]
  -- the others read `part`, which `normGen` does not touch
  all_goals rfl

theorem out_near (c : Render.Cfg) (op : Op) {d e : Doc} (h : Near c.tv d e) : out c op e = out c op d := by
  rcases h with rfl | rfl
  · rfl
  · exact out_normGen c op d

theorem out_run (c : Render.Cfg) (op : Op) (pre : List Op) (d : Doc) : out c op (run c pre d) = out c op d :=
  out_near c op (render_pure c pre d)

/-- every output of a history is what the same call returns on the document the history started from -/
theorem outs_eq_map (c : Render.Cfg) (ops : List Op) {d e : Doc} (h : Near c.tv d e) :
    outs c ops e = ops.map (fun op => out c op d) := by
  induction ops generalizing e with
  | nil => rfl
  | cons op r ih => rw [outs, out_near c op h, ih (h.step (step_cases c op)), List.map_cons]

theorem outs_length (c : Render.Cfg) (ops : List Op) (d : Doc) : (outs c ops d).length = ops.length := by
  rw [outs_eq_map c ops (Or.inl rfl), List.length_map]

/-- **C12 (history independence)**: the i-th output of any sequence of calls is what the same call
    returns on the untouched document. -/
theorem render_history_independent (c : Render.Cfg) (ops : List Op) (d : Doc) (i : Nat) (hi : i < ops.length) :
    (outs c ops d)[i]'(by rw [outs_length]; exact hi) = out c ops[i] d := by
  simp only [outs_eq_map c ops (Or.inl rfl), List.getElem_map]

/-- **C12 (repeatability, full strength)**: in every sequence of output calls, in any order and
    interleaving, two calls of the same kind give identical infosets — no restriction on the
    document (a foreign or missing generator included: every output that contains the metadata
    normalises the generator first, the other outputs do not contain it). -/
theorem render_repeatable (c : Render.Cfg) (ops : List Op) (d : Doc) (i j : Nat)
    (hi : i < ops.length) (hj : j < ops.length) (hk : ops[i] = ops[j]) :
    (outs c ops d)[i]'(by rw [outs_length]; exact hi) = (outs c ops d)[j]'(by rw [outs_length]; exact hj) := by
  rw [render_history_independent c ops d i hi, render_history_independent c ops d j hj, hk]

/-- `save` and `write` produce the same package -/
theorem save_write_same (c : Render.Cfg) (d : Doc) : out c .save d = out c .write d := rfl

/-- the metadata part of every output that has one shows exactly one generator, the library's own -/
theorem meta_output_generator (c : Render.Cfg) (n : Nat) (a : Attrs) (ks : List Node) (d : Doc) (h : d.metaEl = .elem n a ks) :
    out c .metaxml d = .xml (metaTree (.elem n a (ks.filter (fun k => !isGen k) ++ [genNode c.tv]))) := by
  simp [out, (normGen_meta c.tv n a ks d h).1]

/-- `__zipwrite` writes `mimetype`, then the XML parts of the document, then those of every embedded object -/
theorem pkg_shape (F : Styles.Cfg) (d : Doc) : ∃ rest, pkg F d = (str "mimetype", Member.bytes d.mimetype) ::
    ((xmlMembers F [] (str "/") d.mimetype d.part (some d.metaEl)).1 ++
     ((d.objects.map (fun o => xmlMembers F o.folder o.folder o.mimetype o.part none)).flatMap (·.1) ++ rest)) := by
  simp only [pkg, List.append_assoc, List.cons_append, List.nil_append]
  exact ⟨_, rfl⟩

/-- `_saveXmlObjects` writes `styles.xml` and `content.xml` of a (sub)document first, under its folder -/
theorem mem_xmlMembers (F : Styles.Cfg) (folder entry mt : Str) (p : Part) (m : Option Node) :
    (folder ++ str "styles.xml", Member.xml (stylesTree F p)) ∈ (xmlMembers F folder entry mt p m).1 ∧
    (folder ++ str "content.xml", Member.xml (contentTree F p)) ∈ (xmlMembers F folder entry mt p m).1 :=
  ⟨.head _, .tail _ (.head _)⟩

/-- **each folder's parts are computed from that folder's document**: for every embedded object the
    package holds `<folder>styles.xml` and `<folder>content.xml` rendered from the object's own containers
    (its own automatic styles, master styles and body — `_saveXmlObjects` calls `anObject.stylesxml()` /
    `anObject.contentxml()`), and the top-level parts are rendered from the top document. -/
theorem pkg_parts_per_document (F : Styles.Cfg) (d : Doc) :
    (str "styles.xml", Member.xml (stylesTree F d.part)) ∈ pkg F d ∧
    (str "content.xml", Member.xml (contentTree F d.part)) ∈ pkg F d ∧
    ∀ o ∈ d.objects, (o.folder ++ str "styles.xml", Member.xml (stylesTree F o.part)) ∈ pkg F d ∧
                     (o.folder ++ str "content.xml", Member.xml (contentTree F o.part)) ∈ pkg F d := by
  obtain ⟨rest, h⟩ := pkg_shape F d
  have top := mem_xmlMembers F [] (str "/") d.mimetype d.part (some d.metaEl)
  rw [List.nil_append, List.nil_append] at top
  have sub : ∀ o ∈ d.objects, ∀ x ∈ (xmlMembers F o.folder o.folder o.mimetype o.part none).1, x ∈ pkg F d :=
    fun o ho x hx => h ▸ .tail _ (List.mem_append_right _ (List.mem_append_left _
      (List.mem_flatMap.mpr ⟨_, List.mem_map.mpr ⟨o, ho, rfl⟩, hx⟩)))
  exact ⟨h ▸ .tail _ (List.mem_append_left _ top.1), h ▸ .tail _ (List.mem_append_left _ top.2),
    fun o ho => ⟨sub o ho _ (mem_xmlMembers ..).1, sub o ho _ (mem_xmlMembers ..).2⟩⟩

theorem modifyAt_eq_modify (f : Doc → Doc) (i : Nat) (w : List Doc) : modifyAt f i w = w.modify i f := by
  fun_induction modifyAt f i w <;> simp [*]

/-- **C12 (other documents)**: an output call on one document leaves every other live document
    exactly as it was. -/
theorem render_other_untouched (c : Render.Cfg) (w : List Doc) (i j : Nat) (op : Op) (h : j ≠ i) :
    (runW c [(i, op)] w)[j]? = w[j]? := by
  simp [runW, modifyAt_eq_modify, Ne.symm h]

/-- each live document sees exactly the calls made on it, in their order: a history over several documents is
    one independent history per document -/
theorem runW_getElem? (c : Render.Cfg) (calls : List (Nat × Op)) (w : List Doc) (j : Nat) :
    (runW c calls w)[j]? = w[j]?.map (run c ((calls.filter (fun x => x.1 = j)).map (·.2))) := by
  induction calls generalizing w with
  | nil => simp [runW, run]
  | cons call r ih =>
    rw [runW, ih, modifyAt_eq_modify, List.getElem?_modify]
    by_cases hj : call.1 = j <;> cases w[j]? <;> simp [hj, run]

/-- **C12 (purity, any number of documents)**: after any interleaving of output calls on any of the
    live documents, each document is what it was, or what it was with its own generator normalised. -/
theorem world_pure (c : Render.Cfg) (calls : List (Nat × Op)) (w : List Doc) (j : Nat) :
    (runW c calls w)[j]? = w[j]? ∨ (runW c calls w)[j]? = w[j]?.map (normGen c.tv) := by
  rw [runW_getElem?]
  cases w[j]? with
  | none => exact Or.inl rfl
  | some d => rcases render_pure c ((calls.filter (fun x => x.1 = j)).map (·.2)) d with h | h <;> simp [h]

/-- a document with a foreign generator in front of a title -/
def sample : Doc :=
  { mimetype := str "application/vnd.oasis.opendocument.text", topAttrs := [],
    metaEl := .elem 20 [] [.elem eGenerator [] [.text (str "Other/1.0")], .elem 21 [] [.text (str "T")]],
    part := { scripts := .elem 22 [] [], ffd := .elem 23 [] [], settings := .elem 24 [] [],
              styles := .elem 25 [] [], auto := .elem 26 [] [], master := .elem 27 [] [], body := .elem 28 [] [] },
    pictures := [], objects := [], thumbnail := none, thumbType := [], extras := [] }

/-- the statements are not vacuous: `sample` really changes on the first `xml()` … -/
example : (run ⟨⟨[], [], fun _ => false⟩, str "ODFPY/x"⟩ [.xml] sample).metaEl =
    .elem 20 [] [.elem 21 [] [.text (str "T")], .elem eGenerator [] [.text (str "ODFPY/x")]] := by rfl

/-- … and not on `contentxml()`, `stylesxml()`, `settingsxml()` -/
example : (run ⟨⟨[], [], fun _ => false⟩, str "ODFPY/x"⟩ [.contentxml, .stylesxml, .settingsxml] sample).metaEl = sample.metaEl := by rfl

/-! ### histories that contain package calls which raised part-way (`Render.Call`) -/

theorem stepC_cases (c : Render.Cfg) (k : Call) (d : Doc) : stepC c k d = d ∨ stepC c k d = normGen c.tv d := by
  cases k with
  | ok op => exact step_cases c op d
  | failedEarly => exact Or.inl rfl
  | failedLate => exact Or.inr rfl

theorem near_runC (c : Render.Cfg) (ks : List Call) {d e : Doc} (h : Near c.tv d e) : Near c.tv d (runC c ks e) := by
  induction ks generalizing e with
  | nil => exact h
  | cons k r ih => exact ih (h.step (stepC_cases c k))

/-- **C12 (failed calls are calls too, purity)**: after ANY history of output calls, some of which raised
    part-way, the document is the document before or the document before with its generator normalised. -/
theorem failed_calls_pure (c : Render.Cfg) (ks : List Call) (d : Doc) :
    runC c ks d = d ∨ runC c ks d = normGen c.tv d :=
  near_runC c ks (Or.inl rfl)

theorem outC_near (c : Render.Cfg) (k : Call) {d e : Doc} (h : Near c.tv d e) : outC c k e = outC c k d := by
  cases k <;> simp only [outC, out_near c _ h]

theorem outsC_eq_map (c : Render.Cfg) (ks : List Call) {d e : Doc} (h : Near c.tv d e) :
    outsC c ks e = ks.map (fun k => outC c k d) := by
  induction ks generalizing e with
  | nil => rfl
  | cons k r ih => rw [outsC, outC_near c k h, ih (h.step (stepC_cases c k)), List.map_cons]

theorem outsC_length (c : Render.Cfg) (ks : List Call) (d : Doc) : (outsC c ks d).length = ks.length := by
  rw [outsC_eq_map c ks (Or.inl rfl), List.length_map]

/-- **C12 (failed calls are calls too, history independence)**: in a history in which some package calls
    raised part-way, the i-th call returns nothing (it raised) or exactly what the same call returns on the
    untouched document - whatever failed before it. -/
theorem failed_calls_history_independent (c : Render.Cfg) (ks : List Call) (d : Doc) (i : Nat) (hi : i < ks.length) :
    (outsC c ks d)[i]'(by rw [outsC_length]; exact hi) = outC c ks[i] d := by
  simp only [outsC_eq_map c ks (Or.inl rfl), List.getElem_map]

/-- **C12 (failed calls leave no trace in later output)**: the outputs of the calls that got through are the
    outputs of the same history with the failed calls left out. -/
theorem failed_calls_invisible (c : Render.Cfg) (ks : List Call) (d : Doc) :
    (outsC c ks d).filterMap id = outs c (ks.filterMap Call.op?) d := by
  rw [outsC_eq_map c ks (Or.inl rfl), outs_eq_map c _ (Or.inl rfl), List.filterMap_map, List.map_filterMap]
  congr 1
  funext k
  cases k <;> rfl

/-- **C12 (repeatability with failed calls in between)**: two calls of the same kind that got through give
    identical infosets, whatever calls failed before, between or after them. -/
theorem repeatable_across_failed_calls (c : Render.Cfg) (ks : List Call) (d : Doc) (i j : Nat)
    (hi : i < ks.length) (hj : j < ks.length) (hk : ks[i] = ks[j]) :
    (outsC c ks d)[i]'(by rw [outsC_length]; exact hi) = (outsC c ks d)[j]'(by rw [outsC_length]; exact hj) := by
  rw [failed_calls_history_independent c ks d i hi, failed_calls_history_independent c ks d j hj, hk]

example : outsC ⟨⟨[], [], fun _ => false⟩, str "ODFPY/x"⟩ [.ok .metaxml, .failedLate, .failedEarly, .ok .metaxml] sample
    = [some (out ⟨⟨[], [], fun _ => false⟩, str "ODFPY/x"⟩ .metaxml sample), none, none,
       some (out ⟨⟨[], [], fun _ => false⟩, str "ODFPY/x"⟩ .metaxml sample)] := by
  have h := out_normGen ⟨⟨[], [], fun _ => false⟩, str "ODFPY/x"⟩ .metaxml
  simp only [outsC, outC, stepC, step, Op.normalises, if_true] at h ⊢
  simp only [h]

end OdfModel.Props.C12
