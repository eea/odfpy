/-
  Property C03, the bridge between the package layer and the XML layer.  `Props/C03.lean` proves the manifest exact as
  a list of entries (`Out.man`); the member `META-INF/manifest.xml` is an opaque token there.  Here it is opened:
  `save` builds an element tree (`manifest.Manifest()` + one `manifest.FileEntry` per entry, odf/opendocument.py) and
  writes it with `toXml(0)`; a reader (`ODFManifestHandler`, odf/odfmanifest.py) takes its entries from the parsed XML.
  By the round trip `parseDoc_render`, what ANY conforming reader finds is the model's entry list, in order, every
  string through the writer's filter `hu` — equal on the nose for the names `save` generates (`PathsClean`).
  Tie: harness/c03.py compares `Out.man` with an independent expat parse of the real manifest.xml, entry by entry;
  harness/xmlchecks.py compares the writer byte for byte.
-/
import OdfModel.Xml.Compose
import OdfModel.Props.C03
namespace OdfModel.Props.C03Xml
open OdfModel OdfModel.Xml OdfModel.Spec OdfModel.Pkg OdfModel.Props.C03

/-- `urn:oasis:names:tc:opendocument:xmlns:manifest:1.0` -/
def MANIFESTNS : Str :=
  [117, 114, 110, 58, 111, 97, 115, 105, 115, 58, 110, 97, 109, 101, 115, 58, 116, 99, 58, 111, 112, 101, 110, 100, 111,
   99, 117, 109, 101, 110, 116, 58, 120, 109, 108, 110, 115, 58, 109, 97, 110, 105, 102, 101, 115, 116, 58, 49, 46, 48]
def qManifest : QName := ⟨MANIFESTNS, [109, 97, 110, 105, 102, 101, 115, 116]⟩                 -- manifest:manifest
def qFileEntry : QName := ⟨MANIFESTNS, [102, 105, 108, 101, 45, 101, 110, 116, 114, 121]⟩      -- manifest:file-entry
def qFullPath : QName := ⟨MANIFESTNS, [102, 117, 108, 108, 45, 112, 97, 116, 104]⟩             -- manifest:full-path
def qMediaType : QName := ⟨MANIFESTNS, [109, 101, 100, 105, 97, 45, 116, 121, 112, 101]⟩       -- manifest:media-type
/-- `application/octet-stream`, the reader's default media type -/
def OCTET : Str :=
  [97, 112, 112, 108, 105, 99, 97, 116, 105, 111, 110, 47, 111, 99, 116, 101, 116, 45, 115, 116, 114, 101, 97, 109]

/-- `manifest.FileEntry(fullpath=p, mediatype=m)` -/
def entryNode (e : ME) : Node := .elem qFileEntry [(qFullPath, e.path), (qMediaType, e.mediatype)] .nil

def entryForest : List ME → Forest
  | [] => .nil
  | e :: r => .cons (entryNode e) (entryForest r)

/-- `self.manifest = manifest.Manifest()` followed by one `addElement(manifest.FileEntry(…))` per entry -/
def manifestTree (es : List ME) : Node := .elem qManifest [] (entryForest es)

/-- the bytes of `META-INF/manifest.xml`: `_XMLPROLOGUE` + `self.manifest.toXml(0)` -/
def manifestXml (tbl : NsTable) (es : List ME) : Str := render tbl (manifestTree es)

/-- `attrs.get(q)` of the reader `ODFManifestHandler` -/
def attrVal (as : List (QName × Str)) (q : QName) : Option Str :=
  match as with
  | [] => none
  | (k, v) :: r => if k = q then some v else attrVal r q

mutual
/-- `startElementNS`: every `manifest:file-entry`, at any depth, in document order, contributes
    `(attrs.get(full-path), attrs.get(media-type, "application/octet-stream"))` -/
def rawEntries : Node → List (Option Str × Str)
  | .elem q as kids =>
      (if q = qFileEntry then [(attrVal as qFullPath, (attrVal as qMediaType).getD OCTET)] else []) ++ rawEntriesF kids
  | .text _ => []
  | .cdata _ => []
def rawEntriesF : Forest → List (Option Str × Str)
  | .nil => []
  | .cons h t => rawEntries h ++ rawEntriesF t
end

/-- what a reader extracts from the bytes of a manifest: parse (reference parser), then the handler -/
def readManifest (bytes : Str) : Option (List (Option Str × Str)) := (parseDoc bytes).map rawEntries

def EntriesOK (es : List ME) : Prop := ∀ e ∈ es, StrOK e.path ∧ StrOK e.mediatype

/-- the attribute list of one `manifest:file-entry` -/
def entryAttrs (e : ME) : List (QName × Str) := [(qFullPath, e.path), (qMediaType, e.mediatype)]

theorem entryForest_eq (es : List ME) : entryForest es = leaves qFileEntry (es.map entryAttrs) := by
  induction es with
  | nil => rfl
  | cons e r ih => simp [entryForest, entryNode, leaves, entryAttrs, ih]

theorem qnameOK_manifest (loc : Str) (h : isNCName loc = true) : QNameOK ⟨MANIFESTNS, loc⟩ :=
  ⟨h, fun e => absurd (show MANIFESTNS = [] from e) (show MANIFESTNS ≠ [] by decide)⟩

theorem fullPath_ne_mediaType : qFullPath ≠ qMediaType := QName.ne_of_loc (by decide)

theorem entryAttrs_ok (tbl : NsTable) (p : Str) (hp : lookupNs tbl MANIFESTNS = some p) (e : ME)
    (he : StrOK e.path ∧ StrOK e.mediatype) : AttrsQOK tbl (entryAttrs e) :=
  ⟨by simp [entryAttrs, nodupQ, fullPath_ne_mediaType.symm],
    List.forall_mem_cons.mpr ⟨⟨qnameOK_manifest _ (by decide), .inr ⟨p, hp⟩, he.1⟩,
      List.forall_mem_singleton.mpr ⟨qnameOK_manifest _ (by decide), .inr ⟨p, hp⟩, he.2⟩⟩⟩

theorem rawEntriesF_leaves (l : List (List (QName × Str))) :
    rawEntriesF (leaves qFileEntry l) = l.map fun as => (attrVal as qFullPath, (attrVal as qMediaType).getD OCTET) := by
  induction l with
  | nil => rfl
  | cons as r ih => simp [leaves, rawEntriesF, rawEntries, ih]

/-- the listed form of an entry: path and media type as they arrive after the writer's character filter -/
def listed (e : ME) : Option Str × Str := (some (e.path.map hu), e.mediatype.map hu)

/-- **C03 (the XML manifest lists the model's entries)**: reading the emitted `manifest.xml` — prologue, namespace
    declarations, quoting and escaping included — gives one `(full-path, media-type)` pair per entry of the model, in
    order, nothing else. -/
theorem manifest_xml_lists_entries (tbl : NsTable) (p : Str) (es : List ME)
    (ht : TableOK tbl) (hcl : NsClean tbl) (hp : lookupNs tbl MANIFESTNS = some p) (hs : EntriesOK es) :
    readManifest (manifestXml tbl es) = some (es.map listed) := by
  have hcov (loc : Str) (h : isNCName loc = true) : QNameOK ⟨MANIFESTNS, loc⟩ ∧ Covered tbl ⟨MANIFESTNS, loc⟩ :=
    ⟨qnameOK_manifest loc h, .inr ⟨p, hp⟩⟩
  have hattrs : ∀ as ∈ es.map entryAttrs, AttrsQOK tbl as :=
    List.forall_mem_map.mpr fun e he => entryAttrs_ok tbl p hp e (hs e he)
  unfold readManifest manifestXml manifestTree
  rw [entryForest_eq, parseDoc_render_leaves tbl qManifest qFileEntry _ ht hcl (hcov _ (by decide)) (hcov _ (by decide)) hattrs]
  have hne : qManifest ≠ qFileEntry := QName.ne_of_loc (by decide)
  simp only [Option.map_some, rawEntries, hne, if_false, List.nil_append, rawEntriesF_leaves, List.map_map]
  simp [entryAttrs, huAttrsQ, attrVal, fullPath_ne_mediaType, listed]

/-- paths and media types that the writer's filter leaves alone (all names `save` generates are ASCII; registered
    picture names and media types given by the caller are the only free strings) -/
def PathsClean (es : List ME) : Prop := ∀ e ∈ es, e.path.map hu = e.path ∧ e.mediatype.map hu = e.mediatype

theorem listed_clean (es : List ME) (h : PathsClean es) : es.map listed = es.map fun e => (some e.path, e.mediatype) :=
  List.map_congr_left fun e he => by simp [listed, (h e he).1, (h e he).2]

/-- **C03 (truthful manifest, at the level of the bytes)**: two facts side by side, for a saved document whose manifest
    strings are clean.  A reader of `manifest.xml` finds the model's entries `(save d).man`, every string unchanged; and
    (`manifest_exact_ordered`) the paths of those entries that describe files are the archive's member names between
    `mimetype` and `META-INF/manifest.xml`, in order. -/
theorem manifest_xml_lists_members (tbl : NsTable) (p : Str) (d : Doc)
    (ht : TableOK tbl) (hcl : NsClean tbl) (hp : lookupNs tbl MANIFESTNS = some p)
    (hs : EntriesOK (save d).man) (hc : PathsClean (save d).man) :
    readManifest (manifestXml tbl (save d).man) = some ((save d).man.map fun e => (some e.path, e.mediatype))
    ∧ names (save d) = sMimetype :: (((save d).man.filter (fun e => !e.isFolder)).map (·.path) ++ [sManifestPath]) := by
  refine ⟨?_, ?_⟩
  · rw [manifest_xml_lists_entries tbl p _ ht hcl hp hs, listed_clean _ hc]
  · exact manifest_exact_ordered d

/-- the general statement is NOT "equal on the nose": a path with a code point the writer filters (here U+0001) is
    listed under another name than the member carries — the reason for `PathsClean` -/
theorem listed_path_filtered : listed ⟨[97, 1], [], false⟩ ≠ (some [97, 1], []) := by decide

/-- a concrete table and entry list, evaluated by the kernel: written, parsed and read, the two entries come back -/
example :
    let tbl : NsTable := [(MANIFESTNS, [109])]
    let es : List ME := [⟨[47], [116], true⟩, ⟨[99, 46, 120, 109, 108], [116, 47, 120], false⟩]
    readManifest (manifestXml tbl es) = some [(some [47], [116]), (some [99, 46, 120, 109, 108], [116, 47, 120])] := by
  decide +kernel

end OdfModel.Props.C03Xml
