/-
  Property C16, the bridge to the XML layer: `ref_names_folder_partial` (package layer) composed with
  `manifest_xml_lists_entries` (Props/C03Xml.lean, which rests on `parseDoc_render`).
-/
import OdfModel.Props.C16
import OdfModel.Props.C03Xml
namespace OdfModel.Props.C16Xml
open OdfModel OdfModel.Xml OdfModel.Spec OdfModel.Pkg OdfModel.Props.C03Xml

/-- **C16 at the level of the manifest bytes**: under the premises of `ref_names_folder_partial`, for every reference
    `"./" ++ G` returned by addObject, a reader of the emitted manifest.xml finds the entry `G/` with that object's media
    type (both as they arrive through the writer's character filter `hu`; equal on the nose for clean names).
    A member `x` of `refs` is (object id, media type, reference); `drop 2` takes the `./` off the reference. -/
theorem ref_declared_in_manifest_xml (h0 : Hist) (ops : List Op) (h : Hist) (hinit : C16.Inv h0)
    (hord : parentsFirst h0 ops = true) (hrun : run h0 ops = some h)
    (tbl : NsTable) (p : Str) (ht : TableOK tbl) (hcl : NsClean tbl) (hp : lookupNs tbl MANIFESTNS = some p)
    (hs : EntriesOK (save h.root).man) :
    ∀ x ∈ h.refs, ∃ got, readManifest (manifestXml tbl (save h.root).man) = some got ∧
      (some ((x.2.2.drop 2 ++ sSlash).map hu), x.2.1.map hu) ∈ got := by
  intro x hx
  obtain ⟨_, _, _, e, hem, hpath, hmt⟩ := refResolves_iff.mp (C16.ref_names_folder_partial h0 ops h hinit hord hrun x hx)
  refine ⟨_, manifest_xml_lists_entries tbl p _ ht hcl hp hs, List.mem_map.mpr ⟨e, hem, ?_⟩⟩
  simp [listed, hpath, hmt]

end OdfModel.Props.C16Xml
