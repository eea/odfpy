/-
  Property C08 — the node tree stays structurally consistent under any sequence of edits.

  `Inv h` is the consistency of the property text on the heap of `OdfModel.Dom` (clause by clause at its
  definition).  Taking a child out and putting one in are one lemma (`splice_inv`); with the closed forms of
  Props/C07.lean every operation preserves `Inv` (`inv_step`), hence every heap reachable from the empty one
  by an edit history of any length satisfies it (`inv_reachable`).

  About "excluding the insertion of a node into its own descendant": `Inv` is a local
  (per-node) consistency and is preserved even by such calls, so `inv_step` needs no such
  hypothesis; the hypothesis is what keeps the structure a forest, see `tree_step`.
-/
import OdfModel.Props.C07
namespace OdfModel.Props.C08
open OdfModel.Dom OdfModel.Props.C07
-- as in Props/C07.lean: `Id` is to mean `Dom.Id`, not the identity monad
export OdfModel.Dom (Id)

/-- the previous/next links of the nodes of `l` agree with the order of `l`;
    `pr` is the node before the segment, `nx` the node after it -/
def Linked (h : Heap) : Option Id → List Id → Option Id → Prop
  | _, [], _ => True
  | pr, x :: r, nx => (h x).prev = pr ∧ (h x).next = (r.head?.or nx) ∧ Linked h (some x) r nx

theorem Linked.congr {h h' : Heap} {pr l nx} (hl : Linked h pr l nx)
    (heq : ∀ x ∈ l, (h' x).prev = (h x).prev ∧ (h' x).next = (h x).next) : Linked h' pr l nx := by
  induction l generalizing pr with
  | nil => trivial
  | cons x r ih =>
    obtain ⟨h1, h2, h3⟩ := hl
    have hx := heq x (by simp)
    exact ⟨hx.1.trans h1, hx.2.trans h2, ih h3 fun y hy => heq y (by simp [hy])⟩

theorem Linked.append {h : Heap} {pr l1 l2 nx} :
    Linked h pr (l1 ++ l2) nx ↔ Linked h pr l1 (l2.head?.or nx) ∧ Linked h (l1.getLast?.or pr) l2 nx := by
  induction l1 generalizing pr with
  | nil => simp [Linked]
  | cons x r ih =>
    simp only [List.cons_append, Linked]
    rw [ih]
    cases r with
    | nil => simp [Linked, and_assoc]
    | cons y r' =>
      obtain ⟨z, hz⟩ := Option.isSome_iff_exists.mp (List.getLast?_isSome.mpr (List.cons_ne_nil y r'))
      simp [Linked, and_assoc, hz]

/-- nodes of `l` keep prev/next except that the head's prev becomes `pr'` -/
theorem Linked.replace_head {h h' : Heap} {pr pr' l nx} (hl : Linked h pr l nx) (hnd : l.Nodup)
    (hhead : ∀ x, l.head? = some x → (h' x).prev = pr' ∧ (h' x).next = (h x).next)
    (hrest : ∀ x ∈ l, l.head? ≠ some x → (h' x).prev = (h x).prev ∧ (h' x).next = (h x).next) :
    Linked h' pr' l nx := by
  cases l with
  | nil => trivial
  | cons a r =>
    obtain ⟨h1, h2, h3⟩ := hl
    have ha := hhead a rfl
    refine ⟨ha.1, ha.2.trans h2, Linked.congr h3 fun x hx => ?_⟩
    have hxa : a ≠ x := fun e => (List.nodup_cons.mp hnd).1 (e ▸ hx)
    exact hrest x (by simp [hx]) (by simp [hxa])

/-- nodes of `l` keep prev/next except that the last one's next becomes `nx'` -/
theorem Linked.replace_last {h h' : Heap} {pr l nx nx'} (hl : Linked h pr l nx) (hnd : l.Nodup)
    (hlast : ∀ x, l.getLast? = some x → (h' x).next = nx' ∧ (h' x).prev = (h x).prev)
    (hrest : ∀ x ∈ l, l.getLast? ≠ some x → (h' x).prev = (h x).prev ∧ (h' x).next = (h x).next) :
    Linked h' pr l nx' := by
  cases hz : l.getLast? with
  | none => rw [List.getLast?_eq_none_iff.mp hz]; trivial
  | some z =>
    -- `l = l' ++ [z]`: the nodes of `l'` are not the last one (no repetition) and keep their links
    obtain ⟨l', rfl⟩ := List.getLast?_eq_some_iff.mp hz
    obtain ⟨hA, hB, -, -⟩ := Linked.append.mp hl
    have hz' := hlast z hz
    refine Linked.append.mpr
      ⟨Linked.congr hA fun x hx => hrest x (by simp [hx]) ?_, by rw [hz'.2]; exact hB, hz'.1, trivial⟩
    rw [hz]
    rintro ⟨rfl⟩
    exact (List.nodup_append.mp hnd).2.2 _ hx _ (by simp) rfl

/-- **the structural consistency of the property text** -/
structure Inv (h : Heap) : Prop where
  /-- no node is listed twice among the children of a node -/
  nodup : ∀ p, (h p).kids.Nodup
  /-- a node is listed among the children of `p` exactly when `p` is its parent (at most one parent) -/
  parent_iff : ∀ p c, c ∈ (h p).kids ↔ (h c).parent = some p
  /-- previous/next (and so first/last) agree with the order of the child list -/
  linked : ∀ p, Linked h none (h p).kids none
  /-- a detached node has no siblings -/
  detached : ∀ c, (h c).parent = none → (h c).prev = none ∧ (h c).next = none
  /-- text and CDATA nodes have no children -/
  childless : ∀ n, (h n).kind ≠ .elem → (h n).kids = []

theorem Inv.parent_elem {h : Heap} (hI : Inv h) {c p : Id} (hp : (h c).parent = some p) :
    (h p).kind = .elem := by
  have hc : c ∈ (h p).kids := (hI.parent_iff p c).mpr hp
  by_cases hk : (h p).kind = .elem
  · exact hk
  · rw [hI.childless p hk] at hc; cases hc

theorem Inv.detachOk {h : Heap} (hI : Inv h) (c : Id) : DetachOk h c := by
  intro q hq
  exact ⟨hI.parent_elem hq, (hI.parent_iff q c).mpr hq⟩

/-- The child list of `p` goes from `l1 ++ o ++ l2` to `l1 ++ o' ++ l2` (`o`, `o'` at most one node each):
    `removeChild` takes `o = some c` out (`o' = none`), `appendChild` / `insertBefore` put a detached `o' = some n`
    in (`o = none`).  The new heap is given record by record: the node put in gets parent and neighbours, the
    node taken out loses them, the ends of `l1` and `l2` are joined to what now lies between them. -/
theorem splice_inv {h h' : Heap} {p : Id} {l1 l2 : List Id} {o o' : Option Id} (hI : Inv h)
    (hsplit : (h p).kids = l1 ++ (o.toList ++ l2))
    (hnew : ∀ n, o' = some n → (h p).kind = .elem ∧ (h n).parent = none)
    (hrec : ∀ q, h' q = { h q with
      kids := if q = p then l1 ++ (o'.toList ++ l2) else (h q).kids
      parent := if some q = o' then some p else if some q = o then none else (h q).parent
      prev := if some q = o' then l1.getLast? else if some q = o then none
        else if some q = l2.head? then o'.or l1.getLast? else (h q).prev
      next := if some q = o' then l2.head? else if some q = o then none
        else if some q = l1.getLast? then o'.or l2.head? else (h q).next }) :
    Inv h' := by
  -- the middle segment moved to the front: `o` is none of the others, and `l1`, `l2` share no node
  have hnd := (List.perm_append_comm_assoc l1 o.toList l2).nodup (hsplit ▸ hI.nodup p)
  obtain ⟨-, hnd12, hdisj⟩ := List.nodup_append.mp hnd
  obtain ⟨hnd1, hnd2, hd12⟩ := List.nodup_append.mp hnd12
  have ho12 : ∀ x, x ∈ l1 ∨ x ∈ l2 → some x ≠ o := fun x hx e =>
    hdisj x (by simp [← e]) x (List.mem_append.mpr hx) rfl
  -- the nodes of `l1`, `o`, `l2` are the children of `p`; a node put in has no parent
  have hmem : ∀ x, (x ∈ l1 ∨ x ∈ l2) ∨ some x = o ↔ (h x).parent = some p := fun x => by
    rw [← hI.parent_iff, hsplit]; cases o <;> simp [or_comm, or_left_comm, eq_comm]
  have hn : ∀ x, some x = o' → (h x).parent ≠ some p := fun x e hp => by
    rw [(hnew x e.symm).2] at hp; cases hp
  have hn12 : ∀ x, x ∈ l1 ∨ x ∈ l2 → some x ≠ o' := fun x hx e => hn x e ((hmem x).mp (.inl hx))
  have hto : ∀ (o : Option Id) x, x ∈ o.toList ↔ some x = o := fun o x => by cases o <;> simp [eq_comm]
  have hlast : ∀ x, some x = l1.getLast? → x ∈ l1 := fun x hx => List.mem_of_getLast? hx.symm
  have hhead : ∀ x, some x = l2.head? → x ∈ l2 := fun x hx => List.mem_of_mem_head? hx.symm
  -- whose links move: the last of `l1` gets a new next, the head of `l2` a new prev, nobody else but `o`, `o'`
  have hlinks1 : ∀ x ∈ l1, (h' x).prev = (h x).prev ∧
      (h' x).next = if l1.getLast? = some x then o'.or l2.head? else (h x).next := fun x hx => by
    have : ¬ some x = l2.head? := fun e => hd12 x hx x (hhead x e) rfl
    simp [hrec, hn12 x (.inl hx), ho12 x (.inl hx), this, eq_comm]
  have hlinks2 : ∀ x ∈ l2, (h' x).next = (h x).next ∧
      (h' x).prev = if l2.head? = some x then o'.or l1.getLast? else (h x).prev := fun x hx => by
    have : ¬ some x = l1.getLast? := fun e => hd12 x (hlast x e) x hx rfl
    simp [hrec, hn12 x (.inr hx), ho12 x (.inr hx), this, eq_comm]
  have hfar : ∀ x, (h x).parent ≠ some p → some x ≠ o' →
      (h' x).prev = (h x).prev ∧ (h' x).next = (h x).next := fun x hx hxn => by
    have a : ¬ some x = l1.getLast? := fun e => hx ((hmem x).mp (.inl (.inl (hlast x e))))
    have b : ¬ some x = l2.head? := fun e => hx ((hmem x).mp (.inl (.inr (hhead x e))))
    have c : ¬ some x = o := fun e => hx ((hmem x).mp (.inr e))
    simp [hrec, hxn, a, b, c]
  have hhd : (o'.toList ++ l2).head? = o'.or l2.head? := by cases o' <;> rfl
  have hlt : o'.toList.getLast?.or l1.getLast? = o'.or l1.getLast? := by cases o' <;> rfl
  obtain ⟨hA, hB⟩ := Linked.append.mp (hsplit ▸ hI.linked p)
  obtain ⟨-, hB⟩ := Linked.append.mp hB
  refine { nodup := fun q => ?nodup, parent_iff := fun q x => ?parent_iff, linked := fun q => ?linked,
           detached := fun x hx => ?detached, childless := fun q hq => ?childless }
  case nodup =>
    rw [hrec]; dsimp only; split
    · refine (List.perm_append_comm_assoc l1 o'.toList l2).symm.nodup (List.nodup_append.mpr
        ⟨by cases o' <;> simp, hnd12, fun a ha b hb e => ?_⟩)
      exact hn12 b (List.mem_append.mp hb) ((hto o' b).mp (e ▸ ha))
    · exact hI.nodup q
  case parent_iff =>
    -- `x` is listed under `q` iff `q` is its parent, by what `x` is: the node put in (had no parent, so was listed
    -- nowhere; now under `p` only), the node taken out (was under `p` only; now nowhere), or any other node (as before:
    -- the list of `p` has lost and gained nothing else)
    rw [hrec q, hrec x]; dsimp only
    by_cases hx : some x = o'
    · have : x ∉ (h q).kids := fun hm => by
        rw [hI.parent_iff, (hnew x hx.symm).2] at hm; cases hm
      rw [if_pos hx]
      by_cases hq : q = p
      · simp [hq, ← hx]
      · simp [hq, this, Ne.symm hq]
    · rw [if_neg hx]
      by_cases hxo : some x = o
      · have hxp := (hmem x).mp (.inr hxo)
        rw [if_pos hxo]
        by_cases hq : q = p
        · have a : ¬ (x ∈ l1 ∨ x ∈ l2) := fun hm => ho12 x hm hxo
          simp [hq, hto, hx, a]
        · simp [hq, hI.parent_iff, hxp, Ne.symm hq]
      · rw [if_neg hxo]
        by_cases hq : q = p
        · rw [if_pos hq, hq, ← hmem]; simp [hto, hx, hxo]
        · rw [if_neg hq, hI.parent_iff]
  case linked =>
    rw [hrec]; dsimp only
    by_cases hq : q = p
    · rw [if_pos hq]
      refine Linked.append.mpr ⟨Linked.replace_last hA hnd1 (fun x hx => ?_) (fun x hx hne => ?_),
        Linked.append.mpr ⟨?_, Linked.replace_head hB hnd2 (fun x hx => ?_) (fun x hx hne => ?_)⟩⟩
      · -- the last of `l1`
        have := hlinks1 x (List.mem_of_getLast? hx)
        simpa [hx, hhd] using this.symm
      · -- the rest of `l1`
        simpa [hne] using hlinks1 x hx
      · -- the node put in
        cases ho' : o' with
        | none => trivial
        | some n => simp [Linked, hrec, ho']
      · -- the head of `l2`
        have := hlinks2 x (List.mem_of_mem_head? hx)
        simpa [hx, hlt] using this.symm
      · -- the rest of `l2`
        have := hlinks2 x hx; simp [hne] at this; exact this.symm
    · rw [if_neg hq]
      refine Linked.congr (hI.linked q) fun x hx => ?_
      have hxq := (hI.parent_iff q x).mp hx
      exact hfar x (by rw [hxq]; exact fun e => hq (Option.some.inj e))
        (fun e => by rw [(hnew x e.symm).2] at hxq; cases hxq)
  case detached =>
    have hxn : some x ≠ o' := fun e => by simp [hrec, e] at hx
    by_cases hxo : some x = o
    · rw [hrec]; dsimp only
      rw [if_neg hxn, if_pos hxo, if_neg hxn, if_pos hxo]; exact ⟨rfl, rfl⟩
    · have hx' : (h x).parent = none := by simpa [hrec, hxn, hxo] using hx
      obtain ⟨e1, e2⟩ := hfar x (by simp [hx']) hxn
      rw [e1, e2]; exact hI.detached x hx'
  case childless =>
    rw [hrec] at hq ⊢; dsimp only at hq ⊢
    split
    · rename_i e
      have hk0 := hI.childless p (e ▸ hq)
      rw [hsplit] at hk0
      obtain ⟨hl1, hl⟩ := List.append_eq_nil_iff.mp hk0
      cases ho' : o' with
      | none => rw [hl1, (List.append_eq_nil_iff.mp hl).2]; rfl
      | some n => exact absurd (e ▸ (hnew n ho').1) hq
    · exact hI.childless q hq

theorem rm_inv {h : Heap} {p c : Id} (hI : Inv h) (hc : c ∈ (h p).kids) : Inv (rmHeap h p c) := by
  obtain ⟨l1, l2, hsplit, hc1⟩ := List.eq_append_cons_of_mem hc
  -- the links of `c` are what the list says
  obtain ⟨-, hB⟩ := Linked.append.mp (hsplit ▸ hI.linked p)
  obtain ⟨hpc, hnc, -⟩ := hB
  simp only [Option.or_none] at hpc hnc
  refine splice_inv (o := some c) (o' := none) hI hsplit (fun n e => by cases e) fun q => ?_
  rw [rmHeap_apply, hsplit, List.erase_append_right _ hc1, List.erase_cons_head, hpc, hnc]
  simp [eq_comm]

theorem detach_inv {h : Heap} (hI : Inv h) (c : Id) : Inv (detach h c) := by
  unfold detach
  split
  · rename_i q hq; exact rm_inv hI ((hI.parent_iff q c).mpr hq)
  · exact hI

theorem app_inv {h : Heap} {p c : Id} (hI : Inv h) (hkp : (h p).kind = .elem) (hdet : (h c).parent = none) :
    Inv (setNext (appRawHeap h p c) c none) := by
  refine splice_inv (p := p) (l1 := (h p).kids) (l2 := []) (o := none) (o' := some c) hI (by simp)
    (fun n e => by cases e; exact ⟨hkp, hdet⟩) fun q => ?_
  rw [app_apply]
  simp [(hI.detached c hdet).1, eq_comm]

theorem split_at_ref {h : Heap} (hI : Inv h) {p n r : Id} (hr : r ∈ (h p).kids) (hdet : (h n).parent = none) :
    ∃ l1 l2, (h p).kids = l1 ++ r :: l2 ∧ r ∉ l1 ∧ n ∉ l1 := by
  obtain ⟨l1, l2, hsplit, hr1⟩ := List.eq_append_cons_of_mem hr
  refine ⟨l1, l2, hsplit, hr1, fun hm => ?_⟩
  have := (hI.parent_iff p n).mp (by rw [hsplit]; simp [hm])
  rw [hdet] at this; cases this

theorem ins_inv {h : Heap} {p n r : Id} (hI : Inv h) (hkp : (h p).kind = .elem) (hr : r ∈ (h p).kids)
    (hdet : (h n).parent = none) : Inv (insHeap h p n r) := by
  obtain ⟨l1, l2, hsplit, hr1, hn1⟩ := split_at_ref hI hr hdet
  refine splice_inv (l1 := l1) (l2 := r :: l2) (o := none) (o' := some n) hI hsplit
    (fun n e => by cases e; exact ⟨hkp, hdet⟩) fun q => ?_
  rw [ins_apply hsplit hr1 hn1]
  simp [eq_comm]

/-- **C08 (removeChild keeps the tree consistent)**, whether it succeeds or raises -/
theorem removeChild_inv {h : Heap} (hI : Inv h) (p c : Id) : Inv ((removeChild p c).run h).1 := by
  rw [removeChild_run]
  exact keeps_guard hI fun hc => rm_inv hI hc.2

/-- **C08 (insertBefore keeps the tree consistent)** -/
theorem insertBefore_inv {h : Heap} (hI : Inv h) (p n : Id) (ref : Option Id) :
    Inv ((insertBefore p n ref).run h).1 := by
  rw [insertBefore_run]
  refine keeps_guard hI fun ⟨hk, hro, _⟩ => ?_
  cases ref with
  | none => exact app_inv (detach_inv hI n) (by simpa using hk) (detach_parent_self h n)
  | some r =>
    by_cases hne : r = n
    · rw [hne, insertedHeap_self]; exact hI
    · rw [insertedHeap_some h p n hne]
      exact ins_inv (detach_inv hI n) (by simpa using hk) (mem_kids_detach (hro r rfl) hne)
        (detach_parent_self h n)

/-- **C08 (appendChild keeps the tree consistent)**, also when the child is moved from another
    place (or from another position under the same parent) -/
theorem appendChild_inv {h : Heap} (hI : Inv h) (p c : Id) : Inv ((appendChild p c).run h).1 :=
  insertBefore_none_run h p c ▸ insertBefore_inv hI p c none

theorem inv_of_same_links {h h' : Heap} (hI : Inv h)
    (hk : ∀ q, (h' q).kids = (h q).kids) (hpar : ∀ q, (h' q).parent = (h q).parent)
    (hprev : ∀ q, (h' q).prev = (h q).prev) (hnext : ∀ q, (h' q).next = (h q).next)
    (hch : ∀ q, (h' q).kind ≠ .elem → (h q).kids = []) : Inv h' := by
  refine ⟨?_, ?_, ?_, ?_, ?_⟩
  · intro q; rw [hk]; exact hI.nodup q
  · intro q x; rw [hk, hpar]; exact hI.parent_iff q x
  · intro q; rw [hk]; exact Linked.congr (hI.linked q) (fun x _ => ⟨hprev x, hnext x⟩)
  · intro x; rw [hpar, hprev, hnext]; exact hI.detached x
  · intro q hq; rw [hk]; exact hch q hq

/-- creating an object on an unused id: its links were those of a blank record already -/
theorem init_apply {h : Heap} (hI : Inv h) {i : Id} (hb : Blank h i) (k : Kind) (qn : Nat) (q : Id) :
    (h.set i { kind := k, qn := qn }) q = { h q with
      kind := if q = i then k else (h q).kind
      attrs := if q = i then [] else (h q).attrs
      qn := if q = i then qn else (h q).qn } := by
  obtain ⟨hpr, hnx⟩ := hI.detached i hb.1
  rw [Heap.set_apply]; split
  · rename_i e; subst e; simp [hb.1, hb.2, hpr, hnx]
  · rfl

theorem initNode_inv {h : Heap} (hI : Inv h) {i : Id} (hb : Blank h i) (k : Kind) (qn : Nat) :
    Inv (h.set i { kind := k, qn := qn }) := by
  refine inv_of_same_links hI ?_ ?_ ?_ ?_ fun q hq => ?_
  iterate 4 exact fun q => by rw [init_apply hI hb]
  by_cases hqi : q = i
  · rw [hqi]; exact hb.2
  · rw [init_apply hI hb] at hq; exact hI.childless q (by simpa [hqi] using hq)

theorem setAttrs_inv {h : Heap} (hI : Inv h) (e : Id) (v : List (Nat × Nat)) : Inv (setAttrs h e v) := by
  refine inv_of_same_links hI ?_ ?_ ?_ ?_ fun q hq => hI.childless q (by simpa using hq)
  all_goals intro q; simp

/-- A property of heaps kept by object creation, by the attribute store, by `removeChild` and by `insertBefore`
    (`appendChild` is `insertBefore` without reference child) — the last under a side condition `G h p c` on
    what is put under what — is kept by every operation, succeeding or raising.  The side condition is asked of
    the operation's arguments on the heap it runs on; for `addText` / `addCDATA` that is the heap in which the
    new node has just been created. -/
theorem step_preserves {P : Heap → Prop} (G : Heap → Id → Id → Prop)
    (hinit : ∀ {h i}, P h → Blank h i → ∀ k qn, P (h.set i { kind := k, qn := qn }))
    (hattrs : ∀ {h}, P h → ∀ e v, P (setAttrs h e v))
    (hrm : ∀ {h}, P h → ∀ p c, P ((removeChild p c).run h).1)
    (hins : ∀ {h}, P h → ∀ p n ref, G h p n → P ((insertBefore p n ref).run h).1)
    {h : Heap} (hP : P h) (op : Op)
    (hG : match op with
      | .append p c | .addElement p c _ | .insertBefore p c _ => G h p c
      | .addText p t _ _ | .addCDATA p t _ => ∀ k, Blank h t → G (h.set t { kind := k, qn := 0 }) p t
      | _ => True) :
    P ((step op).run h).1 := by
  have happ : ∀ {h}, P h → ∀ p c, G h p c → P ((appendChild p c).run h).1 :=
    fun {h} hP p c hG => insertBefore_none_run h p c ▸ hins hP p c none hG
  cases op with
  | newNode i k qn =>
    rw [step, fresh_bind_run]
    exact keeps_guard hP fun hb => hinit hP hb k qn
  | append p c => exact happ hP p c hG
  | insertBefore p n ref => exact hins hP p n ref hG
  | remove p c => exact hrm hP p c
  | addElement p c a =>
    rw [step, addElement_run]
    exact keeps_guard hP fun _ => happ hP p c hG
  | addText p t a ne =>
    rw [step, fresh_bind_run, addText_run]
    exact keeps_guard hP fun hb => keeps_guard hP fun _ => keeps_guard hP fun _ =>
      happ (hinit hP hb _ _) p t (hG _ hb)
  | addCDATA p t a =>
    rw [step, fresh_bind_run, addCDATA_run]
    exact keeps_guard hP fun hb => keeps_guard hP fun _ => happ (hinit hP hb _ _) p t (hG _ hb)
  | setAttribute e k t a key conv => exact setAttribute_keeps hP (hattrs hP e) k t a key conv
  | setAttrNS e key conv => exact setAttrNS_keeps hP (hattrs hP e) key conv
  | removeAttribute e k t a key => exact removeAttribute_keeps hP (hattrs hP e) k t a key

/-- **C08 (one step)**: every operation of an edit history — succeeding or raising — takes a
    consistent tree to a consistent tree.  No "not into its own descendant" hypothesis is needed
    for this local consistency (see `tree_step` for the forest shape). -/
theorem inv_step {h : Heap} (hI : Inv h) (op : Op) : Inv ((step op).run h).1 :=
  step_preserves (fun _ _ _ => True) (fun hI hb => initNode_inv hI hb) setAttrs_inv removeChild_inv
    (fun hI p n ref _ => insertBefore_inv hI p n ref) hI op (by cases op <;> simp)

theorem inv_runOps {h : Heap} (hI : Inv h) (ops : List Op) : Inv (runOps h ops) := by
  induction ops generalizing h with
  | nil => exact hI
  | cons op r ih => exact ih (inv_step hI op)

theorem inv_empty : Inv Heap.empty := by
  refine ⟨?_, ?_, ?_, ?_, ?_⟩ <;> intros <;> simp [Linked]

/-- **C08**: after an edit history of ANY length — creations, appends, insertions, removals,
    addElement/addText/addCDATA, attribute calls, refused calls included — starting from nothing,
    the tree is consistent. -/
theorem inv_reachable (ops : List Op) : Inv (runOps Heap.empty ops) :=
  inv_runOps inv_empty ops

/-- detaching `c` erases it from every child list (it is in at most one) -/
theorem detach_kids {h : Heap} (hI : Inv h) (c q : Id) : (detach h c q).kids = (h q).kids.erase c := by
  by_cases hq : (h c).parent = some q
  · simp [detach, hq, rmHeap_apply]
  · rw [List.erase_of_not_mem fun hm => hq ((hI.parent_iff q c).mp hm)]
    unfold detach; split
    · rename_i q0 hq0; rw [rmHeap_apply]; exact if_neg fun e : q = q0 => hq (e ▸ hq0)
    · rfl

theorem appendChild_ok {h : Heap} (hI : Inv h) {p : Id} (hk : (h p).kind = .elem) (c : Id) :
    (appendChild p c).run h = (setNext (appRawHeap (detach h c) p c) c none, .ok ()) := by
  rw [appendChild_run]; simp [hk, hI.detachOk c]

/-- **C08 (children lists after appendChild)**: the list-only reference — the child is erased
    from wherever it was and put last under `p` -/
theorem appendChild_kids {h : Heap} (hI : Inv h) {p : Id} (hk : (h p).kind = .elem) (c q : Id) :
    (((appendChild p c).run h).1 q).kids =
      if q = p then (h p).kids.erase c ++ [c] else (h q).kids.erase c := by
  simp only [appendChild_ok hI hk, app_apply, detach_kids hI]

theorem insertBefore_ok {h : Heap} (hI : Inv h) {p n r : Id} (hk : (h p).kind = .elem)
    (hr : r ∈ (h p).kids) (hne : r ≠ n) :
    (insertBefore p n (some r)).run h = (insHeap (detach h n) p n r, .ok ()) := by
  have hro : RefOk h p (some r) := by intro r' e; cases e; exact hr
  rw [insertBefore_run, if_pos ⟨hk, hro, .inr (hI.detachOk n)⟩, insertedHeap_some h p n hne]

/-- **C08 (children lists after insertBefore)**: erased from wherever it was, then placed
    directly before the reference child -/
theorem insertBefore_kids {h : Heap} (hI : Inv h) {p n r : Id} (hk : (h p).kind = .elem)
    (hr : r ∈ (h p).kids) (hne : r ≠ n) (q : Id) :
    (((insertBefore p n (some r)).run h).1 q).kids =
      if q = p then ((h p).kids.erase n).insertIdx (((h p).kids.erase n).idxOf r) n
      else (h q).kids.erase n := by
  rw [insertBefore_ok hI hk hr hne]
  show (insHeap (detach h n) p n r q).kids = _
  rw [insHeap_apply]
  simp only [detach_kids hI]

theorem Inv.listed_once {h : Heap} (hI : Inv h) {c p : Id} (hp : (h c).parent = some p) :
    (∀ q, c ∈ (h q).kids ↔ q = p) ∧ (h p).kids.count c = 1 := by
  refine ⟨fun q => by simp [hI.parent_iff, hp, eq_comm], ?_⟩
  have h1 := List.nodup_iff_count.mp (hI.nodup p) c
  have h2 := List.count_pos_iff.mpr ((hI.parent_iff p c).mpr hp)
  omega

/-- **C08 (moving a node takes it out of its old position)**: after `p.appendChild(c)`, `c` is
    listed under `p` only, exactly once, as last child, and the list of any other node `q0` — the
    old parent in particular — is its old list without `c` -/
theorem move_leaves_old_position {h : Heap} (hI : Inv h) {p c q0 : Id} (hk : (h p).kind = .elem)
    (_hold : (h c).parent = some q0) :
    let h' := ((appendChild p c).run h).1
    (∀ q, c ∈ (h' q).kids ↔ q = p) ∧ (h' p).kids.count c = 1 ∧
    (h' p).kids.getLast? = some c ∧ (q0 ≠ p → (h' q0).kids = (h q0).kids.erase c) := by
  intro h'
  have hpar : (h' c).parent = some p := by
    show (((appendChild p c).run h).1 c).parent = some p
    rw [appendChild_ok hI hk, app_apply]; exact if_pos rfl
  have hkids := appendChild_kids hI hk c
  obtain ⟨h1, h2⟩ := Inv.listed_once (appendChild_inv hI p c) hpar
  exact ⟨h1, h2, by simp [h', hkids p], fun hne => by simp [h', hkids q0, hne]⟩

/-- **C08 (moving with insertBefore)**: after `p.insertBefore(n, r)` the moved node is listed under
    `p` only, exactly once, immediately before `r`; any other old parent has lost it -/
theorem move_leaves_old_position_insertBefore {h : Heap} (hI : Inv h) {p n r q0 : Id}
    (hk : (h p).kind = .elem) (hr : r ∈ (h p).kids) (hne : r ≠ n) (_hold : (h n).parent = some q0) :
    let h' := ((insertBefore p n (some r)).run h).1
    (∀ q, n ∈ (h' q).kids ↔ q = p) ∧ (h' p).kids.count n = 1 ∧
    (h' n).next = some r ∧ (h' r).prev = some n ∧ (q0 ≠ p → (h' q0).kids = (h q0).kids.erase n) := by
  intro h'
  obtain ⟨l1, l2, hsplit, hr1, hn1⟩ :=
    split_at_ref (detach_inv hI n) (mem_kids_detach hr hne) (detach_parent_self h n)
  have hrun : h' = insHeap (detach h n) p n r := by
    show ((insertBefore p n (some r)).run h).1 = _
    rw [insertBefore_ok hI hk hr hne]
  have hpar : (h' n).parent = some p := by rw [hrun, insHeap_apply]; exact if_pos rfl
  obtain ⟨h1, h2⟩ := Inv.listed_once (insertBefore_inv hI p n (some r)) hpar
  refine ⟨h1, h2, ?_, ?_, fun hne' => by simp [h', insertBefore_kids hI hk hr hne q0, hne']⟩
  · rw [hrun, ins_apply hsplit hr1 hn1 n]; simp
  · rw [hrun, ins_apply hsplit hr1 hn1 r]; simp [hne]

/-- **C08 (removing a non-child raises NotFoundErr)** and leaves everything as it was -/
theorem not_child_raises_NotFound {h : Heap} {p c : Id} (hc : c ∉ (h p).kids) :
    (removeChild p c).run h = (h, .error .NotFound) :=
  removeChild_stale h p c hc

/-- **C08 (inserting before a non-child raises NotFoundErr)** and leaves everything as it was —
    in particular the new child keeps its old place -/
theorem not_child_raises_NotFound_insertBefore {h : Heap} {p n r : Id} (hk : (h p).kind = .elem)
    (hr : r ∉ (h p).kids) : (insertBefore p n (some r)).run h = (h, .error .NotFound) :=
  insertBefore_stale_ref h p n r hk hr

/-- `a` is `x` itself or an ancestor of `x` -/
inductive AncOrSelf (h : Heap) (a : Id) : Id → Prop
  | refl : AncOrSelf h a a
  | step {x p : Id} : (h x).parent = some p → AncOrSelf h a p → AncOrSelf h a x

/-- no cycles through parent links: some depth strictly decreases from child to parent -/
def Acyclic (h : Heap) : Prop := ∃ d : Id → Nat, ∀ c p, (h c).parent = some p → d p < d c

theorem acyclic_empty : Acyclic Heap.empty := ⟨fun _ => 0, by intro c p hp; simp at hp⟩

theorem acyclic_of_parent_sub {h h' : Heap} (hA : Acyclic h)
    (hp : ∀ x q, (h' x).parent = some q → (h x).parent = some q) : Acyclic h' := by
  obtain ⟨d, hd⟩ := hA
  exact ⟨d, fun c p hcp => hd c p (hp c p hcp)⟩

theorem acyclic_attach {h h' : Heap} {p n : Id} (hA : Acyclic h)
    (hpar : ∀ x, (h' x).parent = if x = n then some p else (h x).parent)
    (hno : ¬ AncOrSelf h n p) : Acyclic h' := by
  classical
  obtain ⟨d, hd⟩ := hA
  -- `n` and everything below it go deeper than `p`, which is not among them
  refine ⟨fun x => if AncOrSelf h n x then d x + (d p + 1) else d x, ?_⟩
  intro c q hcq
  rw [hpar] at hcq
  by_cases hc : c = n
  · subst hc
    simp only [if_true] at hcq
    cases hcq
    simp only [hno, if_false, AncOrSelf.refl, if_true]
    omega
  · simp only [hc, if_false] at hcq
    have hlt := hd c q hcq
    by_cases hdc : AncOrSelf h n c
    · have hdq : AncOrSelf h n q := by
        cases hdc with
        | refl => exact absurd rfl hc
        | step hp ha => rw [hcq] at hp; cases hp; exact ha
      simp only [hdc, hdq, if_true]; omega
    · have hdq : ¬ AncOrSelf h n q := fun ha => hdc (AncOrSelf.step hcq ha)
      simp only [hdc, hdq, if_false]; exact hlt

theorem AncOrSelf.congr {h h' : Heap} (hp : ∀ x, (h' x).parent = (h x).parent) {a x : Id}
    (ha : AncOrSelf h' a x) : AncOrSelf h a x := by
  induction ha with
  | refl => exact AncOrSelf.refl
  | step hpx _ ih => exact AncOrSelf.step (hp _ ▸ hpx) ih

theorem AncOrSelf.depth_le {h : Heap} {d : Id → Nat} (hd : ∀ c p, (h c).parent = some p → d p < d c) {a x : Id}
    (ha : AncOrSelf h a x) : d a ≤ d x := by
  induction ha with
  | refl => exact Nat.le_refl _
  | step hpx _ ih => exact Nat.le_trans ih (Nat.le_of_lt (hd _ _ hpx))

/-- the nodes at or above `x` form a chain -/
theorem AncOrSelf.comparable {h : Heap} {a b x : Id} (ha : AncOrSelf h a x) (hb : AncOrSelf h b x) :
    AncOrSelf h a b ∨ AncOrSelf h b a := by
  induction ha with
  | refl => exact Or.inr hb
  | @step x p hpx hap ih =>
    cases hb with
    | refl => exact Or.inl (AncOrSelf.step hpx hap)
    | step hpx' hbp => rw [hpx] at hpx'; cases hpx'; exact ih hbp

theorem AncOrSelf.eq_of_no_parent {h : Heap} {a x : Id} (hp : (h x).parent = none) (ha : AncOrSelf h a x) : x = a := by
  cases ha with
  | refl => rfl
  | step hpx _ => rw [hp] at hpx; cases hpx

theorem AncOrSelf.eq_of_no_kids {h : Heap} (hI : Inv h) {a x : Id} (hk : (h a).kids = [])
    (ha : AncOrSelf h a x) : x = a := by
  induction ha with
  | refl => rfl
  | step hpx _ ih =>
    subst ih
    have := (hI.parent_iff _ _).mpr hpx
    rw [hk] at this; cases this

theorem AncOrSelf.trans {h : Heap} {a b x : Id} (hab : AncOrSelf h a b) (hbx : AncOrSelf h b x) : AncOrSelf h a x := by
  induction hbx with
  | refl => exact hab
  | step hpx _ ih => exact AncOrSelf.step hpx ih

/-- the subtree of `c` does not depend on the parent link of `c` itself -/
theorem AncOrSelf.relink {h h' : Heap} {c x : Id} (hoff : ∀ y, y ≠ c → (h' y).parent = (h y).parent)
    (ha : AncOrSelf h c x) : AncOrSelf h' c x := by
  induction ha with
  | refl => exact AncOrSelf.refl
  | @step x q hpx _ ih =>
    by_cases hxc : x = c
    · subst hxc; exact AncOrSelf.refl
    · exact AncOrSelf.step (by rw [hoff x hxc]; exact hpx) ih

/-- outside the subtree of `c` the ancestors do not depend on the parent link of `c` -/
theorem AncOrSelf.off {h h' : Heap} {c a x : Id} (hoff : ∀ y, y ≠ c → (h' y).parent = (h y).parent)
    (ha : AncOrSelf h a x) (hx : ¬ AncOrSelf h c x) : AncOrSelf h' a x := by
  induction ha with
  | refl => exact AncOrSelf.refl
  | @step x q hpx _ ih =>
    have hxc : x ≠ c := fun e => hx (e ▸ AncOrSelf.refl)
    exact AncOrSelf.step (by rw [hoff x hxc]; exact hpx) (ih (fun hq => hx (AncOrSelf.step hpx hq)))

theorem AncOrSelf.off_iff {h h' : Heap} {c a x : Id} (hoff : ∀ y, y ≠ c → (h' y).parent = (h y).parent)
    (hx : ¬ AncOrSelf h' c x) : AncOrSelf h' a x ↔ AncOrSelf h a x :=
  ⟨fun ha => AncOrSelf.off (fun y hy => (hoff y hy).symm) ha hx,
    fun ha => AncOrSelf.off hoff ha (fun hc => hx (AncOrSelf.relink hoff hc))⟩

theorem AncOrSelf.not_above_parent {h : Heap} (hA : Acyclic h) {c p : Id} (hp : (h c).parent = some p) :
    ¬ AncOrSelf h c p := by
  obtain ⟨d, hd⟩ := hA
  intro ha
  have := AncOrSelf.depth_le hd ha
  have := hd c p hp
  omega

/-- what is at or below `n` is `n` itself or lies at or below a child of `n` -/
theorem AncOrSelf.eq_or_below_child {h : Heap} {n x : Id} (hx : AncOrSelf h n x) :
    x = n ∨ ∃ k, (h k).parent = some n ∧ AncOrSelf h k x := by
  induction hx with
  | refl => exact Or.inl rfl
  | @step x p hpx _ ih =>
    rcases ih with e | ⟨k, hk, hkp⟩
    · subst e; exact Or.inr ⟨x, hpx, AncOrSelf.refl⟩
    · exact Or.inr ⟨k, hk, AncOrSelf.step hpx hkp⟩

/-- whether the subtree of `c` hangs under the root `t` is decided at the parent link of `c`: for `x` at or below a
    node `c` other than `t`, `t` is above `x` iff `t` is at or above the parent of `c` -/
theorem AncOrSelf.root_above_iff {h : Heap} {t c x : Id} (htr : (h t).parent = none) (hct : c ≠ t) (hx : AncOrSelf h c x) :
    AncOrSelf h t x ↔ ∃ p, (h c).parent = some p ∧ AncOrSelf h t p := by
  constructor
  · intro ht
    rcases AncOrSelf.comparable ht hx with h1 | h1
    · cases h1 with
      | refl => exact absurd rfl hct
      | step hp hrest => exact ⟨_, hp, hrest⟩
    · exact absurd (AncOrSelf.eq_of_no_parent htr h1).symm hct
  · rintro ⟨p, hp, ht⟩
    exact AncOrSelf.trans (AncOrSelf.step hp ht) hx

/-- the subtrees of two different children of a node share no node -/
theorem AncOrSelf.siblings_disjoint {h : Heap} (hA : Acyclic h) {n k1 k2 x : Id} (hp1 : (h k1).parent = some n)
    (hp2 : (h k2).parent = some n) (hne : k1 ≠ k2) (a1 : AncOrSelf h k1 x) (a2 : AncOrSelf h k2 x) : False := by
  rcases AncOrSelf.comparable a1 a2 with hc | hc
  · cases hc with
    | refl => exact hne rfl
    | step hpx hrest => rw [hp2] at hpx; cases hpx; exact AncOrSelf.not_above_parent hA hp1 hrest
  · cases hc with
    | refl => exact hne rfl
    | step hpx hrest => rw [hp1] at hpx; cases hpx; exact AncOrSelf.not_above_parent hA hp2 hrest

theorem insertBefore_acyclic {h : Heap} (hA : Acyclic h) {p n : Id} (ref : Option Id)
    (hno : ¬ AncOrSelf h n p) : Acyclic ((insertBefore p n ref).run h).1 := by
  rw [insertBefore_run]
  refine keeps_guard hA fun _ => ?_
  by_cases hne : ref = some n
  · rw [hne, insertedHeap_self]; exact hA
  · exact acyclic_attach hA (insertedHeap_parent hne) hno

theorem rmHeap_acyclic {h : Heap} (hA : Acyclic h) (p c : Id) : Acyclic (rmHeap h p c) := by
  apply acyclic_of_parent_sub hA
  intro x q hx; rw [rmHeap_apply] at hx; dsimp only at hx
  split at hx
  · cases hx
  · exact hx

theorem removeChild_acyclic {h : Heap} (hA : Acyclic h) (p c : Id) :
    Acyclic ((removeChild p c).run h).1 := by
  rw [removeChild_run]
  exact keeps_guard hA fun _ => rmHeap_acyclic hA p c

theorem acyclic_of_same_parents {h h' : Heap} (hA : Acyclic h) (hp : ∀ x, (h' x).parent = (h x).parent) :
    Acyclic h' :=
  acyclic_of_parent_sub hA (fun x q hx => by rw [← hp]; exact hx)

/-- the caller error the property excludes: the node to be inserted is the receiver or one of its
    ancestors -/
def NotIntoOwnDescendant (h : Heap) : Op → Prop
  | .append p c => ¬ AncOrSelf h c p
  | .insertBefore p n _ => ¬ AncOrSelf h n p
  | .addElement p c _ => ¬ AncOrSelf h c p
  | .addText p t _ _ => t ≠ p
  | .addCDATA p t _ => t ≠ p
  | _ => True

/-- a node that has just been created is above nothing but itself -/
theorem new_not_above {h : Heap} (hI : Inv h) {p t : Id} (hb : Blank h t) (hne : t ≠ p) (k : Kind) :
    ¬ AncOrSelf (h.set t { kind := k, qn := 0 }) t p := fun ha =>
  hne (AncOrSelf.eq_of_no_kids (initNode_inv hI hb k 0) (by simp) ha).symm

/-- **C08 (the structure stays a forest)**: with the caller error excluded, every operation takes a
    consistent, cycle-free heap to one. -/
theorem tree_step {h : Heap} (hT : Inv h ∧ Acyclic h) (op : Op) (hno : NotIntoOwnDescendant h op) :
    Inv ((step op).run h).1 ∧ Acyclic ((step op).run h).1 :=
  step_preserves (P := fun h => Inv h ∧ Acyclic h) (fun h p c => ¬ AncOrSelf h c p)
    (fun hT hb k qn => ⟨initNode_inv hT.1 hb k qn, acyclic_of_same_parents hT.2 (initHeap_parent hb k qn)⟩)
    (fun hT e v => ⟨setAttrs_inv hT.1 e v, acyclic_of_same_parents hT.2 (fun x => by simp)⟩)
    (fun hT p c => ⟨removeChild_inv hT.1 p c, removeChild_acyclic hT.2 p c⟩)
    (fun hT p n ref hG => ⟨insertBefore_inv hT.1 p n ref, insertBefore_acyclic hT.2 ref hG⟩)
    hT op (by
      cases op with
      | addText p t _ _ | addCDATA p t _ => exact fun k hb => new_not_above hT.1 hb hno k
      | _ => exact hno)

/-- a history none of whose steps makes the excluded caller error -/
def GoodHistory : Heap → List Op → Prop
  | _, [] => True
  | h, op :: r => NotIntoOwnDescendant h op ∧ GoodHistory ((step op).run h).1 r

theorem tree_runOps (ops : List Op) : ∀ h, Inv h ∧ Acyclic h → GoodHistory h ops →
    Inv (runOps h ops) ∧ Acyclic (runOps h ops) := by
  induction ops with
  | nil => exact fun h hT _ => hT
  | cons op r ih => exact fun h hT hg => ih _ (tree_step hT op hg.1) hg.2

/-- **C08 (tree, any history)**: consistent AND cycle-free after every edit history that never
    inserts a node into itself or its own descendant. -/
theorem tree_reachable (ops : List Op) (hg : GoodHistory Heap.empty ops) :
    Inv (runOps Heap.empty ops) ∧ Acyclic (runOps Heap.empty ops) :=
  tree_runOps ops _ ⟨inv_empty, acyclic_empty⟩ hg

/-- non-vacuity: elements 0 1 2, text node 3; 1, 3, 2 appended under 0; then 2 moved before 1, 3 moved
    under 1, and a removal of a non-child refused -/
def demoOps : List Op :=
  [.newNode 0 .elem 0, .newNode 1 .elem 0, .newNode 2 .elem 0, .newNode 3 .text 0,
   .append 0 1, .append 0 3, .append 0 2, .insertBefore 0 2 (some 1), .append 1 3, .remove 0 3]

example : ((runOps Heap.empty demoOps) 0).kids = [2, 1] := by decide +kernel
example : ((runOps Heap.empty demoOps) 1).kids = [3] := by decide +kernel
example : ((runOps Heap.empty demoOps) 1).prev = some 2 ∧ ((runOps Heap.empty demoOps) 1).next = none := by decide +kernel
example : Inv (runOps Heap.empty demoOps) := inv_reachable demoOps

/-- the excluded caller error really is what breaks the forest shape (and only that: the local
    consistency `Inv` survives): after `0.appendChild(1); 1.appendChild(0)` the two nodes are each
    other's parent -/
theorem own_descendant_breaks_forest :
    let h := runOps Heap.empty [.newNode 0 .elem 0, .newNode 1 .elem 0, .append 0 1, .append 1 0]
    Inv h ∧ ¬ Acyclic h := by
  intro h
  refine ⟨inv_reachable _, ?_⟩
  intro ⟨d, hd⟩
  have h1 : (h 0).parent = some 1 := by decide +kernel
  have h2 : (h 1).parent = some 0 := by decide +kernel
  have a := hd 0 1 h1
  have b := hd 1 0 h2
  omega

/-- the hypothesis of `tree_reachable` is satisfiable -/
example : GoodHistory Heap.empty [.newNode 0 .elem 0, .newNode 1 .elem 0, .append 0 1] := by
  refine ⟨trivial, trivial, fun ha => ?_, trivial⟩
  exact absurd (AncOrSelf.eq_of_no_parent (by decide +kernel) ha) (by decide)

end OdfModel.Props.C08
