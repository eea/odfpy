/-
  OdfModel.Props.C17Merge — the nodes inserted by one `addTextToElement` call are already in the
  form a save/load cycle leaves them in: no two text nodes are adjacent, so merging adjacent
  text nodes (`mergeText`, all the SAX builder does to them) returns the very same list.
  With `roundtrip` this gives: the loaded children are *equal* to the inserted ones, not only
  equal under `extractText`; and the encoding is injective.
-/
import OdfModel.Teletype
import OdfModel.Props.C17
namespace OdfModel.Props.C17Merge
open OdfModel OdfModel.Teletype OdfModel.Props.C17

/-- the equation of `mergeText` for every head that does not merge with its successor -/
theorem mergeText_cons (x : TNode) (r : List TNode) (h : ∀ a b r', x = .text a → r ≠ .text b :: r') :
    mergeText (x :: r) = x :: mergeText r := by
  by_cases he : ∃ ks, x = .elem ks
  · obtain ⟨ks, rfl⟩ := he
    exact mergeText.eq_2 ks r
  · exact mergeText.eq_3 x r h (fun ks e => he ⟨ks, e⟩)

theorem mergeText_flush_cons (buf : Str) (x : TNode) (r : List TNode) (hx : ∀ a, x ≠ .text a) :
    mergeText (flush buf ++ x :: r) = flush buf ++ x :: mergeText r := by
  have h (l : List TNode) : mergeText (x :: l) = x :: mergeText l := mergeText_cons x l fun a _ _ e => absurd e (hx a)
  unfold flush
  split
  · exact h r
  · simp only [List.cons_append, List.nil_append]
    rw [mergeText_cons _ _ (fun a b r' _ e => hx b (List.cons.inj e).1), h r]

/-- **C17 (structure survives save/load)**: the list `addTextToElement` appends has no two
    adjacent text nodes, for every string and every state of the text buffer. -/
theorem mergeText_enc (buf s : Str) : mergeText (enc buf s) = enc buf s := by
  fun_induction enc buf s with
  | case1 buf => unfold flush; split <;> simp [mergeText]
  | case2 buf r ih | case3 buf r _ ih | case4 buf r _ _ _ _ ih => simp [mergeText_flush_cons, ih]
  | case5 buf r _ _ _ _ ih | case6 buf c r _ _ _ ih => exact ih

/-- one call: what is loaded back is node for node what was inserted -/
theorem saveload_identity (s : Str) : mergeText (enc [] s) = enc [] s := mergeText_enc [] s

/-- the encoding loses nothing: two strings with the same inserted nodes are the same string -/
theorem enc_injective (s t : Str) (h : enc [] s = enc [] t) : s = t := by
  have := congrArg extractL h
  simpa [roundtrip] using this

/-- and that stays true after the save/load merge -/
theorem enc_injective_after_merge (s t : Str)
    (h : mergeText (enc [] s) = mergeText (enc [] t)) : s = t := by
  rw [saveload_identity, saveload_identity] at h
  exact enc_injective s t h

/-- non-vacuity: a string that exercises every branch of `enc` (text, blank run, tab, line break) -/
example : enc [] [97, 32, 32, 32, 98, 9, 10, 32, 99]
    = [.text [97, 32], .sp 2, .text [98], .tab, .lb, .text [32, 99]] := by
  simp [enc, flush, SP, TAB, LF]

theorem mergeText_head (r : List TNode) (h : ∀ b r', r ≠ .text b :: r') :
    ∀ b r', mergeText r ≠ .text b :: r' := by
  intro b r'
  cases r with
  | nil => simp [mergeText]
  | cons y t =>
    rw [mergeText_cons y t fun a _ _ hy _ => h a t (by rw [hy])]
    intro e
    exact h b t (by rw [(List.cons.inj e).1])

/-- **C17 (a second save/load changes nothing more)**: merging is idempotent on EVERY child list, not only on
    inserted ones - so `roundtrip_after_merge` holds after any number of save/load cycles (`roundtrip_after_merges`). -/
theorem mergeText_idem (l : List TNode) : mergeText (mergeText l) = mergeText l := by
  fun_induction mergeText l with
  | case1 a b r ih => exact ih
  | case2 ks r ih => rw [mergeText_cons _ _ (by simp), ih]
  | case3 x r h1 h2 ih =>
    rw [mergeText_cons x (mergeText r) fun a b r' hx => mergeText_head r (fun b r' => h1 a b r' hx) b r', ih]
  | case4 => simp [mergeText]

/-- `n` save/load cycles, as far as `extractText` can tell -/
def cycles : Nat → List TNode → List TNode
  | 0, l => l
  | n + 1, l => mergeText (cycles n l)

/-- every cycle after the first is absorbed (`mergeText_idem`) -/
theorem cycles_succ (n : Nat) (l : List TNode) : cycles (n + 1) l = mergeText l := by
  induction n with
  | zero => rfl
  | succ k ih => rw [cycles, ih, mergeText_idem]

/-- **C17 (after any number of save/load cycles)**: `extractText` still returns the earlier text and the inserted string -/
theorem roundtrip_after_merges (kids : List TNode) (s : Str) (n : Nat) :
    extractL (cycles (n + 1) (kids ++ enc [] s)) = extractL kids ++ s := by
  rw [cycles_succ]; exact roundtrip_after_merge kids s

end OdfModel.Props.C17Merge
