/-
  Property C05, `extras_carried`: the entries of a package that `load` does not interpret come back from load + save.
  Stated over the package layer (`OdfModel.Pkg`, odfpy as of d51bb64: recursive load, save by folder), where it is
  `C16.load_carries_files`; with its top-level case (`extras_carried_top`) and the members below an object folder
  (`isKept_below_object`, `object_member_carried`, `object_preview_carried`).  Imported by Props/C05.lean.
-/
import OdfModel.Props.C16
namespace OdfModel.Props.C05
open OdfModel OdfModel.Pkg

/-- **C05 (extras_carried)**: for every package that loads, every manifest entry that `load` does not interpret —
    not a picture, the thumbnail, one of the parsed parts (content/styles/settings.xml of any sub-document, the top
    meta.xml, a folder entry of a sub-document), or one of the entries `save` writes afresh ("/", "Thumbnails/",
    mimetype, the manifest) — at the top level or below a sub-document folder of ANY depth (`chainOf` = the folder of
    the sub-document the key belongs to; e.g. "Object 1/meta.xml", "Object 12/Object 1/Configurations2/x") is in the
    manifest of the re-saved package under the same path with the same media type and, unless its name ends in "/",
    a member with the very bytes the source held; META-INF/documentsignatures.xml excepted.
    (`C16.load_carries_files` under the name of this property.) -/
theorem extras_carried (p : Package) (d : Pkg.Doc) (hl : load p = some d) (e : Str × Str)
    (he : e ∈ manifestlist p.manifest)
    (ho : isKept (chainOf ((manifestlist p.manifest).map (·.1)) e.1) e = true)
    (hs : e.1.drop (chainOf ((manifestlist p.manifest).map (·.1)) e.1).length ≠ sDocSig) :
    (∃ fl, (⟨e.1, e.2, fl⟩ : ME) ∈ (save d).man) ∧
    ((e.1.drop (chainOf ((manifestlist p.manifest).map (·.1)) e.1).length).getLast? ≠ some 47 →
      ∃ b, zread p.members e.1 = some b ∧ (⟨e.1, .deflated, [], .bytes b⟩ : ZE) ∈ (save d).zip) :=
  C16.load_carries_files p d hl e he ho hs

/-- the top-level case: an entry that is not below an "Object " folder and that the dispatch does not interpret is
    carried with path, media type and bytes -/
theorem extras_carried_top (p : Package) (d : Pkg.Doc) (hl : load p = some d) (e : Str × Str)
    (he : e ∈ manifestlist p.manifest) (h7 : (e.1.take 7 == sObjectSp) = false)
    (ho : isKept [] e = true) (hs : e.1 ≠ sDocSig) :
    (∃ fl, (⟨e.1, e.2, fl⟩ : ME) ∈ (save d).man) ∧
    (e.1.getLast? ≠ some 47 → ∃ b, zread p.members e.1 = some b ∧ (⟨e.1, .deflated, [], .bytes b⟩ : ZE) ∈ (save d).zip) := by
  have := extras_carried p d hl e he
  rw [chainOf_top _ e.1 h7] at this
  exact this ho hs

/-! ### Listed members below an object folder

A name that means something at the top of a package means nothing special below an object folder (the preview
`Object 1/Thumbnails/thumbnail.png`, its folder entry, an object's own `mimetype`, `META-INF/manifest.xml`, `meta.xml` ...):
the dispatch compares the names with a special meaning against the FULL path, so below an object folder only pictures
and the parsed parts are interpreted. -/

/-- **C05 (isKept_below_object)**: for an entry below an object folder `P` ("Object …/"), the dispatch keeps EVERY
    listed member as it is, except pictures and the parts it parses (content / styles / settings.xml, the folder entry
    itself): whatever the name below the folder is - `Thumbnails/thumbnail.png`, `Thumbnails/`, `mimetype`,
    `META-INF/manifest.xml`, `meta.xml`, `layout-cache` ... -/
theorem isKept_below_object (P rest mt : Str) (hO : P.head? = some 79) :
    isKept P (P ++ rest, mt) = (!isPicturePath rest && !isParsedPart rest) := by
  -- the path starts with `O`, so it is none of the full paths the dispatch knows
  have hne : ∀ t : Str, t.head? ≠ some 79 → (P ++ rest == t) = false := fun t ht =>
    beq_eq_false_iff_ne.mpr fun h => ht (by rw [← h, List.head?_append, hO]; rfl)
  unfold isKept isRegenerated
  simp only [List.drop_left, hne sThumb (by decide), hne sMeta (by decide), hne sSlash (by decide),
    hne sThumbDir (by decide), hne sMimetype (by decide), hne sManifestPath (by decide)]
  simp

/-- **C05 (object_member_carried)**: a listed member `P ++ rest` that the chain of object folders assigns to the
    sub-document in `P` ("Object …/", any depth) and that is neither a picture nor a parsed part of that sub-document is
    listed in the re-saved package under the same path with the same media type and, unless it is a folder name, stored
    with the very bytes of the source - in particular the object's own preview `Thumbnails/thumbnail.png`
    (`object_preview_carried`) and the folder entry `Thumbnails/`. -/
theorem object_member_carried (p : Package) (d : Pkg.Doc) (hl : load p = some d) (P rest mt : Str)
    (he : (P ++ rest, mt) ∈ manifestlist p.manifest)
    (hc : chainOf ((manifestlist p.manifest).map (·.1)) (P ++ rest) = P) (hO : P.head? = some 79)
    (hpic : isPicturePath rest = false) (hpart : isParsedPart rest = false) (hs : rest ≠ sDocSig) :
    (∃ fl, (⟨P ++ rest, mt, fl⟩ : ME) ∈ (save d).man) ∧
    (rest.getLast? ≠ some 47 →
      ∃ b, zread p.members (P ++ rest) = some b ∧ (⟨P ++ rest, .deflated, [], .bytes b⟩ : ZE) ∈ (save d).zip) := by
  have := extras_carried p d hl (P ++ rest, mt) he
  simp only [hc, List.drop_left] at this
  exact this (by rw [isKept_below_object P rest mt hO, hpic, hpart]; rfl) hs

/-- the preview image of an embedded object (its folder entry `Thumbnails/` is `object_member_carried` at `rest := sThumbDir`) -/
theorem object_preview_carried (p : Package) (d : Pkg.Doc) (hl : load p = some d) (P mt : Str)
    (he : (P ++ sThumb, mt) ∈ manifestlist p.manifest)
    (hc : chainOf ((manifestlist p.manifest).map (·.1)) (P ++ sThumb) = P) (hO : P.head? = some 79) :
    (∃ fl, (⟨P ++ sThumb, mt, fl⟩ : ME) ∈ (save d).man) ∧
    ∃ b, zread p.members (P ++ sThumb) = some b ∧ (⟨P ++ sThumb, .deflated, [], .bytes b⟩ : ZE) ∈ (save d).zip := by
  have h := object_member_carried p d hl P sThumb mt he hc hO (by decide) (by decide) (by decide)
  exact ⟨h.1, h.2 (by decide)⟩

/-- the hypotheses are satisfiable: "Object 1/" is such a folder, and `Thumbnails/` below it is kept too -/
example : isKept [79, 98, 106, 101, 99, 116, 32, 49, 47] ([79, 98, 106, 101, 99, 116, 32, 49, 47] ++ sThumbDir, []) = true := by
  rw [isKept_below_object _ _ _ (by decide)]; decide

end OdfModel.Props.C05
