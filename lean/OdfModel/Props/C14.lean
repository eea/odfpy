/-
  Property C14 — namespaces keep their identity; output is independent of process history.

  Model: `OdfModel.Ns` (nsdict / Element.namespaces / get_nsprefix / __save_prefix), `OdfModel.Xml` (writer).
  Tie: harness/c14.py — random histories of namespace registrations vs the real table (`drv_xml ns …`), and the
  infoset of a document serialised after a random history vs the same document serialised in a fresh process.
-/
import OdfModel.NsLemmas
import OdfModel.Xml.Compose
namespace OdfModel.Props.C14
open OdfModel OdfModel.Xml OdfModel.Spec OdfModel.Ns

/-- a string read as one number (base beyond every code point): distinct numbers, distinct strings, and the kernel
    compares two numbers in one step where two of the ~40 URIs share a 38-character prefix -/
def asNat (s : Str) : Nat := s.foldl (fun a c => a * 0x110000 + (c + 1)) 0

/-- the initial table shipped in odf/namespaces.py is sound: namespaces pairwise distinct, prefixes pairwise
    distinct NCNames, none of them `xmlns` or of the generated form `ns<digits>`, no empty namespace
    (re-checked by the kernel against the regenerated table on every run) -/
theorem init0_ok : Init0OK :=
  ⟨nodup_of_map asNat (by decide +kernel), nodup_of_map asNat (by decide +kernel), by decide +kernel⟩

/-- the table invariant holds after EVERY history of `get_nsprefix` calls -/
theorem inv_reachable (nss : List Str) : Inv (run initial nss) :=
  inv_run initial nss (inv_initial init0_ok)

theorem seen_keys_from (nss : List Str) : ∀ e ∈ (run initial nss).seen, e.1 ∈ nss := fun e he =>
  ((mem_seen_keys_run initial nss e.1).mp (List.mem_map.mpr ⟨e, he, rfl⟩)).elim (fun h => nomatch h) And.left

/-- **C14 / C01 ("whatever the process has serialised before")**: after every history the table declared on root
    elements is admissible — no prefix bound to two namespaces (the converse is `one_prefix_per_namespace`), prefixes
    are NCNames other than `xmlns`, and the empty namespace is never bound — provided the namespace names handed to the library are
    strings of real code points. -/
theorem tableOK_reachable (nss : List Str) (h : ∀ ns ∈ nss, StrOK ns) : TableOK (run initial nss).seen := by
  have hinv := inv_reachable nss
  refine ⟨seen_prefs_nodup _ hinv, fun e he => ?_⟩
  have hs := hinv.shape e (hinv.sub e he)
  exact ⟨hs.2.1, hs.2.2.1, hs.2.2.2, h e.1 (seen_keys_from nss e he)⟩

/-- each namespace name is declared once (bound to exactly one prefix) -/
theorem one_prefix_per_namespace (nss : List Str) : ((run initial nss).seen.map (·.1)).Nodup :=
  (inv_reachable nss).seenKeys

/-- each prefix is declared once (bound to exactly one namespace) -/
theorem one_namespace_per_prefix (nss : List Str) : ((run initial nss).seen.map (·.2)).Nodup :=
  seen_prefs_nodup _ (inv_reachable nss)

/-- the empty namespace is never bound to a prefix -/
theorem empty_namespace_never_bound (nss : List Str) : ∀ e ∈ (run initial nss).seen, e.1 ≠ [] := by
  intro e he
  have hinv := inv_reachable nss
  exact (hinv.shape e (hinv.sub e he)).2.2.2

/-- unqualified names stay unqualified, whatever the table -/
theorem unqualified_stays_unqualified (tbl : NsTable) (l : Str) : qualify tbl ⟨[], l⟩ = l :=
  qualify_plain tbl ⟨[], l⟩ rfl

/-- namespace names survive the filter when they contain no filtered character -/
theorem nsClean_reachable (nss : List Str) (h : ∀ ns ∈ nss, ns.map hu = ns) : NsClean (run initial nss).seen :=
  fun e he => h e.1 (seen_keys_from nss e he)

theorem admissible_reachable (nss : List Str) (hs : ∀ ns ∈ nss, StrOK ns ∧ ns.map hu = ns) :
    TableOK (run initial nss).seen ∧ NsClean (run initial nss).seen :=
  ⟨tableOK_reachable nss fun ns h => (hs ns h).1, nsClean_reachable nss fun ns h => (hs ns h).2⟩

/-- **C14 (history independence)**: what a tree serialises to, at the infoset level, does not depend on the table —
    hence not on which documents, elements or namespaces the process handled before. -/
theorem history_independent (a b : NsTable) (q : QName) (attrs : List (QName × Str)) (kids : Forest)
    (ha : TableOK a) (hca : NsClean a) (hb : TableOK b) (hcb : NsClean b)
    (hta : TreeOK a (.elem q attrs kids)) (htb : TreeOK b (.elem q attrs kids)) :
    parseDoc (render a (.elem q attrs kids)) = parseDoc (render b (.elem q attrs kids)) := by
  rw [parseDoc_render a q attrs kids ha hca hta, parseDoc_render b q attrs kids hb hcb htb]

/-- the same, spelled out for two process histories -/
theorem history_independent_runs (h1 h2 : List Str) (q : QName) (attrs : List (QName × Str)) (kids : Forest)
    (hs1 : ∀ ns ∈ h1, StrOK ns ∧ ns.map hu = ns) (hs2 : ∀ ns ∈ h2, StrOK ns ∧ ns.map hu = ns)
    (ht1 : TreeOK (run initial h1).seen (.elem q attrs kids)) (ht2 : TreeOK (run initial h2).seen (.elem q attrs kids)) :
    parseDoc (render (run initial h1).seen (.elem q attrs kids)) =
      parseDoc (render (run initial h2).seen (.elem q attrs kids)) :=
  history_independent _ _ q attrs kids (admissible_reachable h1 hs1).1 (admissible_reachable h1 hs1).2
    (admissible_reachable h2 hs2).1 (admissible_reachable h2 hs2).2 ht1 ht2

/-- **C14 (a namespace that was declared stays declared, under the same prefix)**: whatever the process does to the
    table afterwards — more documents, more foreign namespaces, loading packages — an element built earlier (whose
    qualified name was fixed when it was built) still finds its prefix bound to its namespace on every later root. -/
theorem binding_persists (st : NsState) (hist : List Str) (ns p : Str) (h : lookupNs st.seen ns = some p) :
    lookupNs (run st hist).seen ns = some p := by
  induction hist generalizing st with
  | nil => exact h
  | cons x r ih =>
    -- one call leaves the declaration table alone or appends to it
    refine ih _ ?_
    rw [seen_step]
    split
    · exact h
    · rw [lookupNs_append, h]; rfl

/-- … hence the qualified name an element was given when it was built is the one any later table gives it -/
theorem qualify_persists (st : NsState) (hist : List Str) (q : QName) (p : Str) (h : lookupNs st.seen q.ns = some p) :
    qualify (run st hist).seen q = qualify st.seen q := by
  have h2 := binding_persists st hist q.ns p h
  simp [qualify, prefixOf, h, h2]

/-- the premise is met by a real history: a foreign namespace registered first, then others -/
example : lookupNs (run initial [[117]]).seen [117] = some (NS_PFX ++ dec OdfModel.Generated.nsdict0.length)
    ∧ lookupNs (run (run initial [[117]]) [[118], [119]]).seen [117] = some (NS_PFX ++ dec OdfModel.Generated.nsdict0.length) := by
  constructor <;> decide +kernel

/-- **C14 (prefix inside an attribute value)**: when a formula / namespaced-token value starts with a prefix the
    library knows, that prefix is declared on every root written afterwards and is bound to the namespace the
    library associates with it. -/
theorem value_prefix_declared (st : NsState) (hinv : Inv st) (p rest ns : Str) (hp : 58 ∉ p)
    (hk : knownNs st.nsdict p = some ns) : (ns, p) ∈ (savePrefix st (p ++ 58 :: rest)).seen := by
  have htw : (p ++ 58 :: rest).takeWhile (· != 58) = p := (takeWhile_ne58 p rest hp).1
  have hne : p ≠ p ++ 58 :: rest := fun h => by simpa using congrArg List.length h
  have hmem := knownNs_mem hk
  have hl := lookupNs_of_mem_nodup hinv.keys hmem
  have hnsne : ns ≠ [] := (hinv.shape _ hmem).2.2.2
  simp only [savePrefix, htw, hne, if_false, hk, getNsPrefix, List.isEmpty_eq_false_iff.mpr hnsne, Bool.false_eq_true, nsAssign, hl]
  split
  · rename_i hs
    -- already declared: the entry for `ns` in `seen` is an entry of `nsdict`, hence carries prefix `p`
    obtain ⟨p', hls⟩ := Option.isSome_iff_exists.mp hs
    have h1 := lookupNs_mem hls
    have h2 := lookupNs_of_mem_nodup hinv.keys (hinv.sub _ h1)
    rw [hl] at h2; cases h2; exact h1
  · simp

/-- **known finding (value prefix unknown to the library)**, as a theorem about the model: when the prefix is not in
    `nsdict` (e.g. `msoxl:` in formulas written by other applications) nothing is registered, so the value's prefix is
    not declared on output. -/
theorem finding_value_prefix_unknown (st : NsState) (v : Str)
    (hk : knownNs st.nsdict (v.takeWhile (· != 58)) = none) : savePrefix st v = st := by
  simp only [savePrefix, hk]
  split <;> rfl

theorem inv_savePrefix (st : NsState) (v : Str) (h : Inv st) : Inv (savePrefix st v) := by
  simp only [savePrefix]
  split
  · exact h
  · split
    · exact h
    · exact inv_step st _ h

/-- **C14 (prefix inside an attribute value, for all histories before and after)**: whatever the process did before
    (`pre`) and does afterwards (`post`), once an attribute the converters route through `__save_prefix` (formula,
    namespaced token, script language / event name) has been given a value that starts with a prefix `nsdict` knows,
    every root written later declares that prefix and binds it to the namespace `nsdict` associates with it. -/
theorem value_prefix_declared_all_histories (pre post : List Str) (p rest ns : Str) (hp : 58 ∉ p)
    (hk : knownNs (run initial pre).nsdict p = some ns) :
    lookupNs (run (savePrefix (run initial pre) (p ++ 58 :: rest)) post).seen ns = some p := by
  have hinv := inv_reachable pre
  have hmem := value_prefix_declared (run initial pre) hinv p rest ns hp hk
  have hinv2 := inv_savePrefix (run initial pre) (p ++ 58 :: rest) hinv
  exact binding_persists _ post ns p (lookupNs_of_mem_nodup hinv2.seenKeys hmem)

/-- ... and the attribute's own namespace, registered by `setAttrNS` just before the converter runs, does not disturb
    it: the state the harness observes after `setAttrNS(ans, local, p:rest)` on a fresh element, the process having run
    `pre` before, is `savePrefix (run initial (pre ++ [ans])) value`, and the value's prefix is declared there
    (`value_prefix_declared` at that state). -/
theorem value_prefix_declared_after_setAttrNS (pre : List Str) (ans p rest ns : Str) (hp : 58 ∉ p)
    (hk : knownNs (run initial (pre ++ [ans])).nsdict p = some ns) :
    (ns, p) ∈ (savePrefix (run initial (pre ++ [ans])) (p ++ 58 :: rest)).seen :=
  value_prefix_declared _ (inv_reachable (pre ++ [ans])) p rest ns hp hk

end OdfModel.Props.C14
