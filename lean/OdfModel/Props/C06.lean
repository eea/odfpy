/-
  Property C06 — with checks on, the API accepts exactly what the ODF 1.2 schema permits.

  Specification side   OdfModel.Grammar        what a RELAX-NG pattern permits / requires (hand-written)
                       Generated.GrammarSchema  the two shipped .rng files as `P` terms (translated syntactically on every run)
  Implementation side  OdfModel.GrammarApi      the decisions of Element.addElement / addText / addCDATA / setAttribute / __init__
                       Generated.GrammarTables  odf/grammar.py, imported and dumped on every run
                       Generated.GrammarFactories  qname of every element factory
  Allowed differences  OdfModel.GrammarExceptions  `Exceptions` (documented in the repository) and `KnownFindings`
                                                (real findings = the lines of known-findings/C06.txt)

  The theorems below quantify over every element id of the tables (`e < nElems`: every element name
  known to the schemas, to odf/grammar.py or produced by a factory) and over *all* children /
  attributes / keywords.  They are obtained from the kernel's evaluation of the row check `rowOk` on
  every row of the regenerated tables (`all_rows`, Props/C06/Rows.lean), lifted by the lemmas of
  Props/C06/Defs.lean, which hold for any tables and any schema.

  Ties to /repo: the tables are regenerated from the working tree before every build (translator);
  the decision logic of the model is compared with the real API on every (parent, child),
  (element, keyword), element × {text, CDATA}, constructor and factory by harness/c06.py.
-/
import OdfModel.Props.C06.Defs
import OdfModel.Props.C06.Schema
import OdfModel.Props.C06.Kw
import OdfModel.Props.C06.Fuel
import OdfModel.Props.C06.Rows
namespace OdfModel.Props.C06
open OdfModel OdfModel.Grammar OdfModel.GrammarApi OdfModel.GrammarData OdfModel.GrammarExceptions
open OdfModel.Generated

/-- **C06 (the schema side is fuel-independent)**: on the content of every element declaration of
    the shipped schemas, the four semantic functions give the same answer at `FUEL` and at every
    larger fuel. -/
theorem schema_semantics_fuel_independent (d : Decl) (hd : d ∈ schema.elems.all) (k : Nat) :
    mayElems schema (FUEL + k) d.content = mayElems schema FUEL d.content
    ∧ mayText schema (FUEL + k) d.content = mayText schema FUEL d.content
    ∧ mayAttrs schema (FUEL + k) d.content = mayAttrs schema FUEL d.content
    ∧ mustAttrs schema (FUEL + k) d.content = mustAttrs schema FUEL d.content := by
  have h := List.all_eq_true.mp fuel_sufficient d hd
  simp only [Bool.and_eq_true] at h
  exact sem_fuel schema FUEL d.content h.2 k

/-! ### The property at full strength

`C06_full` is the statement of the property with the documented `Exceptions` only.  It does **not**
hold: the rows of `KnownFindings` (= known-findings/C06.txt, each reproduced on the real code by
harness/c06.py on every run) are counter-examples; no theorem here states `¬ C06_full`.  The theorems
proved below are the same statements with the additional disjunct `∨ inKnownFindings …`, i.e. C06 for
every row outside that explicit, decidable list; any *other* differing row makes them fail to check. -/

def C06_full : Prop :=
  (∀ p, p < GrammarTables.nElems → ∀ c,
      allowsChild T p c = schema.permitsChild p c ∨ inExceptions .children (elemName p) (elemName c) = true)
  ∧ (∀ e, e < GrammarTables.nElems →
      allowsText' T e = schema.mayText e ∨ inExceptions .text (elemName e) NOITEM = true)
  ∧ (∀ e, e < GrammarTables.nElems → ∀ kw b, setAttribute T true e kw = .ok b →
      schema.permitsAttr e b = true ∨ inExceptions .attrs (elemName e) (attrName b) = true)
  ∧ (∀ e, e < GrammarTables.nElems → ∀ a, (schema.mayAttrs e).contains a = true →
      (a ≠ ANY ∧ (setAttribute T true e (kwOf T a)).isOk = true) ∨ inExceptions .attrs (elemName e) (attrName a) = true)
  ∧ (∀ e, e < GrammarTables.nElems → ∀ a,
      requiresAttr T e a = schema.requires e a ∨ inExceptions .required (elemName e) (attrName a) = true)
  ∧ (∀ e, e < GrammarTables.nElems → schema.isElem e = true →
      GrammarFactories.factoryQnames.contains e = true ∨ inExceptions .factory (elemName e) NOITEM = true)

/-- **C06 (children)**: for every parent element of the tables and every child whatsoever,
    `addElement` with checks on accepts the child iff the shipped schema permits it there, or the
    pair is a documented exception, or it is a listed finding. -/
theorem children_match (p : Nat) (hp : p < GrammarTables.nElems) (c : Nat) :
    allowsChild T p c = schema.permitsChild p c
    ∨ inExceptions .children (elemName p) (elemName c) = true
    ∨ inKnownFindings .children (elemName p) (elemName c) = true := by
  have h := (rowOk_spec (all_rows p hp)).kids
  exact (children_lift _ _ (fun h c => excused_star h) h c).imp_right excused_split

/-- **C06 (text)**: `addText` / `addCDATA` with checks on succeed iff the schema permits character
    data in the element (or exception / listed finding). -/
theorem text_match (e : Nat) (he : e < GrammarTables.nElems) :
    (allowsText' T e = schema.mayText e ∧ (addCDATA T true e).isOk = schema.mayText e)
    ∨ inExceptions .text (elemName e) NOITEM = true
    ∨ inKnownFindings .text (elemName e) NOITEM = true := by
  rcases (rowOk_spec (all_rows e he)).text with h | h
  · have : allowsText' T e = schema.mayText e := (allowsText_eq T e).trans h
    exact Or.inl ⟨this, this⟩
  · exact Or.inr (excused_split h)

/-- **C06 (attributes, accepted ⇒ permitted)**: whenever `setAttribute` with checks on accepts a
    keyword on an element of the tables, the attribute it stores is one the schema permits on that
    element (or exception / listed finding). -/
theorem attrs_match_sound (e : Nat) (he : e < GrammarTables.nElems) (kw b : Nat)
    (h : setAttribute T true e kw = .ok b) :
    schema.permitsAttr e b = true
    ∨ inExceptions .attrs (elemName e) (attrName b) = true
    ∨ inKnownFindings .attrs (elemName e) (attrName b) = true := by
  have hr := (rowOk_spec (all_rows e he)).attrs
  exact (attrs_sound_lift hr h).imp_right excused_split

/-- **C06 (attributes, permitted ⇒ accepted)**: the keyword of every attribute the schema permits
    on an element of the tables is accepted by `setAttribute` with checks on (or exception / listed
    finding; `<anyName/>` attributes can only be excepted). -/
theorem attrs_match_complete (e : Nat) (he : e < GrammarTables.nElems) (a : Nat)
    (h : (schema.mayAttrs e).contains a = true) :
    (a ≠ ANY ∧ (setAttribute T true e (kwOf T a)).isOk = true)
    ∨ inExceptions .attrs (elemName e) (attrName a) = true
    ∨ inKnownFindings .attrs (elemName e) (attrName a) = true := by
  have hr := (rowOk_spec (all_rows e he)).attrs
  exact (attrs_complete_lift hr h).imp_right excused_split

/-- only the keyword of a listed attribute is accepted, and the attribute stored is one with that keyword -/
theorem setAttribute_resolves (e kw b : Nat) (h : setAttribute T true e kw = .ok b) :
    kwOf T b = kw ∧ ∃ l, allowedAttrsOf T e = some l ∧ b ∈ l := by
  obtain ⟨l, hl, hf⟩ := setAttribute_ok h
  exact ⟨(firstWithKw_some hf).2, l, hl, (firstWithKw_some hf).1⟩

/-- **C06 (required attributes, table = schema)**: the constructor's table lists attribute `a` for
    element `e` iff every declaration of `e` in the schema requires `a` (or exception / listed finding). -/
theorem required_match (e : Nat) (he : e < GrammarTables.nElems) (a : Nat) :
    requiresAttr T e a = schema.requires e a
    ∨ inExceptions .required (elemName e) (attrName a) = true
    ∨ inKnownFindings .required (elemName e) (attrName a) = true :=
  (agree_lift (rowOk_spec (all_rows e he)).required a).imp_right excused_split

theorem firstMissing_eq_find (given req : List Nat) :
    firstMissing given req = req.find? fun r => !given.contains r := by
  induction req with
  | nil => rfl
  | cons r rest ih => simp only [firstMissing, List.find?_cons, ih]; cases given.contains r <;> rfl

/-- **C06 (constructor)**: with checks on, construction fails exactly when a table-required
    attribute is missing, the failure is an AttributeError naming a missing required attribute. -/
theorem construct_fails_iff (e : Nat) (given : List Nat) :
    ((construct T true e given).isOk = false ↔ ∃ a, requiresAttr T e a = true ∧ given.contains a = false)
    ∧ ∀ err a, construct T true e given = .error (err, a) →
        err = .AttributeError ∧ requiresAttr T e a = true ∧ given.contains a = false := by
  simp only [construct, if_true, requiresAttr, firstMissing_eq_find]
  cases hf : (requiredOf T e).find? (fun r => !given.contains r) with
  | none =>
    rw [List.find?_eq_none] at hf
    refine ⟨⟨fun h => by simp [Except.isOk, Except.toBool] at h, fun ⟨a, ha, hg⟩ => ?_⟩, fun err a h => by cases h⟩
    exact absurd (by rw [hg]; rfl) (hf a (List.contains_iff_mem.mp ha))
  | some r =>
    have hr : (requiredOf T e).contains r = true ∧ given.contains r = false :=
      ⟨List.contains_iff_mem.mpr (List.mem_of_find?_eq_some hf), by simpa using List.find?_some hf⟩
    refine ⟨⟨fun _ => ⟨r, hr⟩, fun _ => rfl⟩, fun err a h => ?_⟩
    simp only [Except.error.injEq, Prod.mk.injEq] at h
    obtain ⟨rfl, rfl⟩ := h
    exact ⟨rfl, hr⟩

/-- **C06 (constructor keywords)**: a keyword argument of the constructor is decided exactly like
    `setAttribute` with checks on — whatever `check_grammar` the constructor got, and in particular
    every keyword is refused on an element without an allowed_attributes row. -/
theorem constructKw_keyword (Tb : Tables) (chk : Bool) (e kw : Nat) (given rest : List Nat) :
    ((setAttribute Tb true e kw).isOk = false →
        constructKw Tb chk e given (kw :: rest) = .error (.refusedKeyword kw))
    ∧ (allowedAttrsOf Tb e = none → constructKw Tb chk e given (kw :: rest) = .error (.refusedKeyword kw))
    ∧ (∀ a, setAttribute Tb true e kw = .ok a →
        constructKw Tb chk e given (kw :: rest) = constructKw Tb chk e (given ++ [a]) rest) := by
  refine ⟨?_, ?_, ?_⟩
  · intro h
    cases hs : setAttribute Tb true e kw with
    | ok a => simp [hs, Except.isOk, Except.toBool] at h
    | error err => simp [constructKw, loadKeywords, hs]
  · intro h
    simp [constructKw, loadKeywords, setAttribute, h]
  · intro a h
    simp [constructKw, loadKeywords, h]

/-- **C06 (factories)**: every element the schemas declare is produced by an element factory
    (called as `f(check_grammar=False)`), or is a documented exception / listed finding. -/
theorem factories_cover (e : Nat) (he : e < GrammarTables.nElems) (hs : schema.isElem e = true) :
    GrammarFactories.factoryQnames.contains e = true
    ∨ inExceptions .factory (elemName e) NOITEM = true
    ∨ inKnownFindings .factory (elemName e) NOITEM = true :=
  ((rowOk_spec (all_rows e he)).factory hs).imp_right excused_split

/-- **C06 (no row)**: for any tables, an element without an allowed_children row accepts any child,
    checks on or off.  (Elements of a foreign namespace have no row; that the schema's `<anyName/>`
    islands permit any child there is `islands_permit_anything`, which this statement does not use.) -/
theorem rowless_parent_accepts (Tb : Tables) (chk : Bool) (p c : Nat) (h : allowedChildrenOf Tb p = none) :
    addElement Tb chk p c = .ok () := by
  unfold addElement
  rw [h]
  cases chk <;> rfl

/-- **C06 (text in the islands)**: an element that no schema declaration names and that the tables
    do not know (no allowed_children row) — MathML content, XForms instance data, foreign elements —
    accepts text with checks on, and the schema's `<anyName/>` islands permit text there: the two
    agree, without exception. -/
theorem text_match_islands (e : Nat) (hs : schema.isElem e = false) (hr : lookup T.allowedChildren e = none) :
    allowsText' T e = schema.mayText e ∧ (addCDATA T true e).isOk = schema.mayText e := by
  have hisl := islands_permit_anything
  have hempty : (schema.namedPatterns e).isEmpty = true := by simpa [Schema.isElem] using hs
  have hmay : schema.mayText e = true := by
    simp only [Schema.mayText, Schema.patterns, hempty, if_true]
    obtain ⟨p, hp⟩ := List.exists_mem_of_ne_nil _ (List.isEmpty_eq_false_iff.mp hisl.1)
    exact List.any_eq_true.mpr ⟨p, hp, (Bool.and_eq_true_iff.mp (List.all_eq_true.mp hisl.2 p hp)).2⟩
  have h : allowsText' T e = schema.mayText e := by
    rw [allowsText_eq, hmay]; simp [allowsTextOf, hr]
  exact ⟨h, h⟩

/-- **C06 (checks off)**: with `check_grammar=False`, `addElement`, `addText`, `addCDATA` and the
    constructor never refuse — for any tables. -/
theorem unchecked_passes (Tb : Tables) (p c e : Nat) (given : List Nat) :
    addElement Tb false p c = .ok () ∧ addText Tb false e = .ok () ∧ addCDATA Tb false e = .ok ()
    ∧ construct Tb false e given = .ok () := ⟨rfl, rfl, rfl, rfl⟩

/-- **C06 (refusals)**: the only refusals are IllegalChild (addElement), IllegalText (addText,
    addCDATA) and AttributeError (setAttribute with checks on) — for any tables. -/
theorem refusal_kinds (Tb : Tables) (chk : Bool) (p c e kw : Nat) :
    (∀ err, addElement Tb chk p c = .error err → err = .IllegalChild)
    ∧ (∀ err, addText Tb chk e = .error err → err = .IllegalText)
    ∧ (∀ err, addCDATA Tb chk e = .error err → err = .IllegalText)
    ∧ (∀ err, setAttribute Tb true e kw = .error err → err = .AttributeError) := by
  -- every branch of the four functions returns, or raises the error named here
  refine ⟨fun err h => ?_, fun err h => ?_, fun err h => ?_, fun err h => ?_⟩
  · unfold addElement at h
    split at h
    · split at h <;> cases h <;> rfl
    · cases h
  · unfold addText at h
    split at h <;> cases h <;> rfl
  · unfold addCDATA addText at h
    split at h <;> cases h <;> rfl
  · unfold setAttribute at h
    split at h
    · cases h; rfl
    · split at h <;> cases h <;> rfl

/-- the hypotheses are satisfiable and the decisions are not vacuous: `text:p` is a row of the
    tables, accepts text and `text:span`, refuses itself as a child, and the schema agrees -/
example :
    let p := GrammarNames.elemName.idxOf (GrammarNamesCodec.encode "text:p")
    let s := GrammarNames.elemName.idxOf (GrammarNamesCodec.encode "text:span")
    (p < GrammarTables.nElems ∧ s < GrammarTables.nElems ∧ schema.isElem p = true
      ∧ allowsText' T p = true ∧ schema.mayText p = true
      ∧ allowsChild T p s = true ∧ schema.permitsChild p s = true
      ∧ allowsChild T p p = false ∧ schema.permitsChild p p = false) := by
  decide +kernel

end OdfModel.Props.C06
