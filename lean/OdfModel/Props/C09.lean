/-
  Property C09 — document-wide lookups always agree with the current tree (model: OdfModel/DomDoc.lean).

  The invariant is `CohIdx`: for every qname the index list holds exactly the attached elements of that qname, each once,
  and ownerDocument is the document exactly on the attached elements.  Every tree edit changes ONE parent link, of a node
  `c` other than the top node; the elements at or below `c` (`elems_spec`) leave the index and lose their owner, or enter it
  and get the owner of the new parent — `coh_relink` is that step, once, for `removeChild` and for the attach stage of
  `appendChild` / `insertBefore`.  `_partial` in a name means the side conditions of `OpOk` / `HistoryOk`, nothing else.
  Name lookups (`registeredStyle`, `lookupStyle`, `styleByName`, as odfpy has them from fe6d0ae / 29f2068 on: a registered
  entry counts only while it still bears the name and hangs under a style container) answer from the tree whatever the
  style dictionary held (`lookupStyle_spec`), given the second invariant `SdQ`, which every call keeps (`sdq_step`, from `Rq`).
-/
import OdfModel.Props.C09Calls
namespace OdfModel.Props.C09
open OdfModel.Dom OdfModel.DomDoc OdfModel.Props.C07 OdfModel.Props.C08

/-! ### coherence of the element index and of ownerDocument -/

/-- attached to the document: the top node is the node itself or one of its ancestors -/
def Att (s : DState) (x : Id) : Prop := AncOrSelf s.heap s.top x

/-- **the element index and ownerDocument agree with the tree**: for every qname the list
    `element_dict[qname]` has no repetition and holds exactly the attached elements of that qname
    (so it is a permutation of any duplicate-free enumeration of them, `coh_perm`); an element's
    ownerDocument is the document exactly when it is attached.  (The top node itself is listed only
    after an index rebuild from the top; nothing queries its type.) -/
structure CohIdx (s : DState) : Prop where
  top_elem : (s.heap s.top).kind = .elem
  top_root : (s.heap s.top).parent = none
  nodup : ∀ q, (ed s q).Nodup
  mem_iff : ∀ q x, x ≠ s.top → (x ∈ ed s q ↔ Att s x ∧ (s.heap x).kind = .elem ∧ (s.heap x).qn = q)
  top_mem : ∀ q, s.top ∈ ed s q → (s.heap s.top).qn = q
  owned_iff : ∀ x, (s.heap x).kind = .elem → (s.owned x = true ↔ Att s x)
  text_unowned : ∀ x, (s.heap x).kind ≠ .elem → s.owned x = false

theorem CohIdx.owned_true_iff {s : DState} (hC : CohIdx s) (x : Id) :
    s.owned x = true ↔ Att s x ∧ (s.heap x).kind = .elem := by
  by_cases hx : (s.heap x).kind = .elem
  · rw [hC.owned_iff x hx]; exact (and_iff_left hx).symm
  · rw [hC.text_unowned x hx]; simp [hx]

theorem att_congr {s s' : DState} (ht : s'.top = s.top) (hp : ∀ y, (s'.heap y).parent = (s.heap y).parent) (x : Id) :
    Att s' x ↔ Att s x := by
  unfold Att; rw [ht]
  exact ⟨AncOrSelf.congr hp, AncOrSelf.congr (fun y => (hp y).symm)⟩

/-- **the index after the node `c` (not the top node) was given the parent `np`** — the shape every tree edit has.
    `l` lists the elements at or below `c`; they were attached exactly when `was` and are attached exactly when `now`
    (each: the respective parent of `c` is attached); the index lost them if `was`, gained them if `now`, and their
    ownerDocument was set to `now`.  `hnd`: that the new lists are duplicate-free is the caller's to show, who may assume
    for it that no member of `l` was listed unless `was` (which this lemma derives from `hC`). -/
theorem coh_relink {s s' : DState} {c : Id} {np : Option Id} {l : List Id} {was now : Bool}
    (hC : CohIdx s) (hA' : Acyclic s'.heap) (hct : c ≠ s.top) (htop : s'.top = s.top)
    (hpar : ∀ y, (s'.heap y).parent = if y = c then np else (s.heap y).parent)
    (hkind : ∀ y, (s'.heap y).kind = (s.heap y).kind) (hqn : ∀ y, (s'.heap y).qn = (s.heap y).qn)
    (hl : ∀ x, x ∈ l ↔ AncOrSelf s'.heap c x ∧ (s'.heap x).kind = .elem)
    (hwas : was = true ↔ ∃ p, (s.heap c).parent = some p ∧ Att s p)
    (hnow : now = true ↔ ∃ p, np = some p ∧ Att s p)
    (hnd : ∀ q, (∀ y ∈ l, y ∈ ed s q → was = true) → (ed s' q).Nodup)
    (hed : ∀ q y, y ∈ ed s' q ↔ (y ∈ ed s q ∧ ¬ (was = true ∧ y ∈ l ∧ (s.heap y).qn = q)) ∨
      (now = true ∧ y ∈ l ∧ (s.heap y).qn = q))
    (how : ∀ y, s'.owned y = if y ∈ l then now else s.owned y) : CohIdx s' := by
  have hoff : ∀ y, y ≠ c → (s'.heap y).parent = (s.heap y).parent := fun y hy => by rw [hpar, if_neg hy]
  have hoff' : ∀ y, y ≠ c → (s.heap y).parent = (s'.heap y).parent := fun y hy => (hoff y hy).symm
  have htr' : (s'.heap s'.top).parent = none := by rw [htop, hoff _ (Ne.symm hct)]; exact hC.top_root
  have hout : ∀ x, ¬ AncOrSelf s'.heap c x → (Att s' x ↔ Att s x) := fun x hx => by
    unfold Att; rw [htop]; exact AncOrSelf.off_iff hoff hx
  have hbefore : ∀ x, AncOrSelf s'.heap c x → (Att s x ↔ was = true) := fun x hx =>
    (AncOrSelf.root_above_iff hC.top_root hct (AncOrSelf.relink hoff' hx)).trans hwas.symm
  have hafter : ∀ x, AncOrSelf s'.heap c x → (Att s' x ↔ now = true) := by
    intro x hx
    refine (AncOrSelf.root_above_iff htr' (by rw [htop]; exact hct) hx).trans (Iff.trans ?_ hnow.symm)
    have hpc : (s'.heap c).parent = np := by rw [hpar, if_pos rfl]
    rw [hpc]
    -- the new parent is not below `c`: the forest is acyclic
    exact exists_congr fun p => and_congr_right fun e => hout p (AncOrSelf.not_above_parent hA' (hpc.trans e))
  have htopl : s.top ∉ l := fun hm =>
    hct (AncOrSelf.eq_of_no_parent (by rw [← htop]; exact htr') ((hl _).mp hm).1).symm
  exact {
    top_elem := by rw [htop, hkind]; exact hC.top_elem
    top_root := htr'
    nodup := fun q => hnd q fun y hyl hym => by
      have hyt : y ≠ s.top := fun e => htopl (e ▸ hyl)
      exact (hbefore y ((hl y).mp hyl).1).mp ((hC.mem_iff q y hyt).mp hym).1
    mem_iff := fun q x hxt => by
      rw [htop] at hxt
      rw [hed q x, hC.mem_iff q x hxt, hl x, hkind, hqn]
      by_cases hb : AncOrSelf s'.heap c x
      · -- below `c`
        rw [hbefore x hb, hafter x hb]
        simp only [hb, true_and]
        exact ⟨fun h => h.elim (fun h => absurd h.1 h.2) id, Or.inr⟩
      · -- elsewhere
        rw [hout x hb]
        simp only [hb, false_and, and_false, not_false_eq_true, and_true, or_false]
    top_mem := fun q ht => by
      rw [htop] at ht ⊢
      rw [hqn]
      rcases (hed q s.top).mp ht with h1 | h1
      · exact hC.top_mem q h1.1
      · exact absurd h1.2.1 htopl
    owned_iff := fun x hxe => by
      rw [hkind] at hxe
      rw [how x]
      by_cases hb : AncOrSelf s'.heap c x
      · have hxl : x ∈ l := (hl x).mpr ⟨hb, by rw [hkind]; exact hxe⟩
        rw [if_pos hxl, hafter x hb]
      · have hxl : x ∉ l := fun hm => hb ((hl x).mp hm).1
        rw [if_neg hxl, hout x hb]; exact hC.owned_iff x hxe
    text_unowned := fun x hxe => by
      rw [hkind] at hxe
      have : x ∉ l := fun hm => hxe (by rw [← hkind]; exact ((hl x).mp hm).2)
      rw [how x, if_neg this]; exact hC.text_unowned x hxe }

/-- coherence reads the heap only through the parent links and through kind and qname of ATTACHED nodes -/
theorem coh_congr {s s' : DState} (hC : CohIdx s) (ht : s'.top = s.top) (he : s'.edict = s.edict)
    (ho : s'.ownedL = s.ownedL) (hp : ∀ y, (s'.heap y).parent = (s.heap y).parent)
    (hk : ∀ y, Att s y → (s'.heap y).kind = (s.heap y).kind ∧ (s'.heap y).qn = (s.heap y).qn) : CohIdx s' := by
  have hatt := att_congr ht hp
  have htop : Att s s.top := AncOrSelf.refl
  have hown : ∀ x, s'.owned x = true ↔ Att s' x ∧ (s'.heap x).kind = .elem := fun x => by
    rw [owned_congr ho, hC.owned_true_iff, hatt]
    exact and_congr_right fun ha => by rw [(hk x ha).1]
  exact {
    top_elem := by rw [ht, (hk _ htop).1]; exact hC.top_elem
    top_root := by rw [ht, hp]; exact hC.top_root
    nodup := fun q => by unfold ed; rw [he]; exact hC.nodup q
    mem_iff := fun q x hx => by
      rw [ht] at hx
      unfold ed; rw [he, hatt x]
      refine (hC.mem_iff q x hx).trans (and_congr_right fun a => ?_)
      rw [(hk x a).1, (hk x a).2]
    top_mem := fun q hq => by
      rw [ht] at hq ⊢; unfold ed at hq; rw [he] at hq
      rw [(hk _ htop).2]; exact hC.top_mem q hq
    owned_iff := fun x hx => (hown x).trans (and_iff_left hx)
    text_unowned := fun x hx => by
      cases h : s'.owned x with
      | false => rfl
      | true => exact absurd ((hown x).mp h).2 hx }

/-- the state invariant of C09: a consistent tree (`C08.Inv`) that is a forest (`C08.Acyclic`), with coherent index and
    owners -/
def Good (s : DState) : Prop := Inv s.heap ∧ Acyclic s.heap ∧ CohIdx s

theorem inv_sameLinks {h h' : Heap} (hI : Inv h) (hs : SameLinks h h') : Inv h' :=
  inv_of_same_links hI hs.kids hs.parent hs.prev hs.next
    fun q hq => hI.childless q (hs.kind q ▸ hq)

theorem good_of_sameLinks {s s' : DState} (hG : Good s) (hs : SameLinks s.heap s'.heap) (ht : s'.top = s.top)
    (he : s'.edict = s.edict) (ho : s'.ownedL = s.ownedL) : Good s' :=
  ⟨inv_sameLinks hG.1 hs, acyclic_of_same_parents hG.2.1 hs.parent,
    coh_congr hG.2.2 ht he ho hs.parent fun y _ => ⟨hs.kind y, hs.qn y⟩⟩

/-! ### removeChild, appendChild, insertBefore -/

/-- **C09 (removeChild)**: cutting off a node (element or text, with its whole subtree, from an
    attached or a detached parent) keeps index and ownerDocument in step with the tree; a refused
    call changes nothing. -/
theorem removeChild_good {p c : Id} {s s' : DState} {r : Except Err Unit} (hG : Good s)
    (hrun : (DomDoc.removeChild p c).run s = (s', r)) (hr : r ≠ .error .RecursionError) : Good s' := by
  obtain ⟨hI, hA, hC⟩ := hG
  rcases (removeChild_view hrun).2 with ⟨e, _⟩ | hrec | ⟨_, ⟨hk, hc⟩, l, hl, hheap, hdrop⟩
  · rw [e]; exact ⟨hI, hA, hC⟩
  · exact absurd hrec hr
  · obtain ⟨hnodup, hmem⟩ := hdrop.index hC.nodup
    have hI' : Inv s'.heap := by rw [hheap]; exact rm_inv hI hc
    have hA' : Acyclic s'.heap := by rw [hheap]; exact rmHeap_acyclic hA p c
    have hpc : (s.heap c).parent = some p := (hI.parent_iff p c).mp hc
    have hct : c ≠ s.top := by intro e; rw [e, hC.top_root] at hpc; cases hpc
    exact ⟨hI', hA', coh_relink (np := none) (was := s.owned p) (now := false) hC hA' hct hdrop.top
      (hpar := fun y => by rw [hheap, rmHeap_apply])
      (hkind := fun y => by rw [hheap, rmHeap_apply])
      (hqn := fun y => by rw [hheap, rmHeap_apply])
      (hl := fun x => by unfold elemsUnder at hl; rw [← hheap] at hl; exact elems_spec hI' hl x)
      (hwas := by rw [hC.owned_iff p hk]; simp [hpc])
      (hnow := by simp)
      (hnd := fun q _ => hnodup q)
      (hed := fun q y => by rw [hmem q y]; simp)
      (how := hdrop.owned)⟩

/-- the last stage of appendChild / insertBefore: the new child is linked (heap `h1`), now
    `_child_attached` runs -/
theorem attach_good {s0 s' : DState} {p c : Id} {h1 : Heap} {r : Except Err Unit} (hG0 : Good s0)
    (hkp : (s0.heap p).kind = .elem) (hdet : (s0.heap c).parent = none) (hct : c ≠ s0.top)
    (hno : ¬ AncOrSelf s0.heap c p) (hI1 : Inv h1)
    (hpar1 : ∀ y, (h1 y).parent = if y = c then some p else (s0.heap y).parent)
    (hkind1 : ∀ y, (h1 y).kind = (s0.heap y).kind) (hqn1 : ∀ y, (h1 y).qn = (s0.heap y).qn)
    (hrun : (childAttached p c).run { s0 with heap := h1 } = (s', r)) (hr : r ≠ .error .RecursionError) :
    Good s' := by
  obtain ⟨_, hA0, hC0⟩ := hG0
  have hA1 : Acyclic h1 := acyclic_attach hA0 hpar1 hno
  rcases (childAttached_view hrun).2 with ⟨hrec, _⟩ | ⟨_, l, hl, hsame, htop, hindex, howned⟩
  · exact absurd hrec hr
  · have hindex' : ∀ q, ed s' q = if s0.owned p = true
        then ed s0 q ++ l.filter (fun y => (s0.heap y).qn = q) else ed s0 q := by
      intro q; have := hindex q; simp only [hqn1] at this; exact this
    -- coherent with the linked heap itself; the heap of `s'` differs from it in attribute values only
    refine good_of_sameLinks (s := { s' with heap := h1 }) ⟨hI1, hA1, ?_⟩ hsame rfl rfl rfl
    exact coh_relink (np := some p) (was := false) (now := s0.owned p) hC0 hA1 hct htop hpar1 hkind1 hqn1
      (hl := fun x => elems_spec hI1 hl x)
      (hwas := by simp [hdet])
      (hnow := by rw [hC0.owned_iff p hkp]; simp)
      (hnd := fun q hnew => by
        -- the traversal lists no element twice, and none of them was listed (`hnew`, as `was = false`)
        show (ed s' q).Nodup
        rw [hindex' q]; split
        · refine List.nodup_append.mpr ⟨hC0.nodup q, (elems_nodup hI1 hA1 hl).filter _, ?_⟩
          rintro a ha _ hb rfl
          exact absurd (hnew a (List.mem_filter.mp hb).1 ha) (by simp)
        · exact hC0.nodup q)
      (hed := fun q y => by
        show y ∈ ed s' q ↔ _
        rw [hindex' q]
        by_cases ho : s0.owned p = true <;> simp [ho])
      (how := howned)

/-- besides `Good`: what the attach stage of `appendChild` / `insertBefore` needs about the receiver `p` afterwards -/
theorem detach_good {p c : Id} {s s' : DState} {r : Except Err Unit} (hG : Good s) (hk : (s.heap p).kind = .elem)
    (hno : ¬ AncOrSelf s.heap c p) (hrun : (DomDoc.detachIfAttached c).run s = (s', r))
    (hr : r ≠ .error .RecursionError) :
    Good s' ∧ s'.top = s.top ∧
      (r = .ok () → (s'.heap p).kind = .elem ∧ (s'.heap c).parent = none ∧ ¬ AncOrSelf s'.heap c p) := by
  unfold DomDoc.detachIfAttached at hrun
  simp only [DomDoc.run_bind_rd] at hrun
  cases hp : (s.heap c).parent with
  | none => rw [hp] at hrun; cases hrun; exact ⟨hG, rfl, fun _ => ⟨hk, hp, hno⟩⟩
  | some q =>
    rw [hp] at hrun
    rcases (removeChild_view hrun).2 with ⟨e, hnf⟩ | hrec | ⟨_, _, l, _, hh, hdrop⟩
    · subst e; exact ⟨hG, rfl, fun h => by rw [hnf] at h; cases h⟩
    · exact absurd hrec hr
    · refine ⟨removeChild_good hG hrun hr, hdrop.top, fun _ => ?_⟩
      rw [hh]
      exact ⟨by rw [rmHeap_apply]; exact hk, by rw [rmHeap_apply]; exact if_pos rfl,
        fun ha => hno (ha.relink fun y hy => by rw [rmHeap_apply]; exact (if_neg hy).symm)⟩

/-- **C09 (appendChild)**: appending a node — new, or moved from anywhere with its whole subtree,
    under an attached or a detached parent — keeps index and ownerDocument in step with the tree. -/
theorem appendChild_good {p c : Id} {s s' : DState} {r : Except Err Unit} (hG : Good s)
    (hno : ¬ AncOrSelf s.heap c p) (hct : c ≠ s.top)
    (hrun : (DomDoc.appendChild p c).run s = (s', r)) (hr : r ≠ .error .RecursionError) : Good s' := by
  refine guard_inv hG (appendChild_runD p c s ▸ hrun) fun hk hrun => ?_
  rcases hd : (DomDoc.detachIfAttached c).run s with ⟨s0, (e | u)⟩ <;> rw [hd] at hrun
  · cases hrun; exact (detach_good hG hk hno hd hr).1
  · obtain ⟨hG0, ht0, hd0⟩ := detach_good hG hk hno hd (ok_ne_recursionError _)
    obtain ⟨hkp0, hdet, hno0⟩ := hd0 rfl
    exact attach_good hG0 hkp0 hdet (by rw [ht0]; exact hct) hno0 (app_inv hG0.1 hkp0 hdet)
      (fun y => by rw [app_apply]) (fun y => by rw [app_apply]) (fun y => by rw [app_apply]) hrun hr

/-- **C09 (insertBefore)** -/
theorem insertBefore_good {p n : Id} {ref : Option Id} {s s' : DState} {r : Except Err Unit} (hG : Good s)
    (hno : ¬ AncOrSelf s.heap n p) (hct : n ≠ s.top)
    (hrun : (DomDoc.insertBefore p n ref).run s = (s', r)) (hr : r ≠ .error .RecursionError) : Good s' := by
  rcases insertBefore_cases hrun with rfl | ⟨hk, ⟨e, hd, rfl⟩ | ⟨s0, hd, hrest⟩⟩
  · exact hG
  · exact (detach_good hG hk hno hd hr).1
  · obtain ⟨hG0, ht0, hd0⟩ := detach_good hG hk hno hd (ok_ne_recursionError _)
    obtain ⟨hkp0, hdet, hno0⟩ := hd0 rfl
    rcases hrest with rfl | ⟨_, ha⟩ | ⟨rf, hrf, hc⟩
    · exact hG0
    · exact appendChild_good hG0 hno0 (by rw [ht0]; exact hct) ha hr
    · exact attach_good hG0 hkp0 hdet (by rw [ht0]; exact hct) hno0 (ins_inv hG0.1 hkp0 hrf hdet)
        (fun y => by rw [insHeap_apply]) (fun y => by rw [insHeap_apply]) (fun y => by rw [insHeap_apply]) hc hr

/-! ### object creation, the add* wrappers -/

/-- a new object (an unused id) enters the heap detached, unowned, unindexed -/
theorem initNode_good {s : DState} (hG : Good s) {i : Id} (hb : Blank s.heap i) (hit : i ≠ s.top) (k : Kind) (qn : Nat) :
    Good { s with heap := s.heap.set i { kind := k, qn := qn } } := by
  obtain ⟨hI, hA, hC⟩ := hG
  refine ⟨initNode_inv hI hb k qn, acyclic_of_same_parents hA (initHeap_parent hb k qn),
    coh_congr hC rfl rfl rfl (initHeap_parent hb k qn) ?_⟩
  intro y hy
  have hyi : y ≠ i := fun e => hit (AncOrSelf.eq_of_no_parent hb.1 (e ▸ hy))
  show ((s.heap.set i _) y).kind = _ ∧ ((s.heap.set i _) y).qn = _
  rw [Heap.set_other _ _ _ _ hyi]; exact ⟨rfl, rfl⟩

theorem addElement_good {p c : Id} {a : Bool} {s s' : DState} {r : Except Err Unit} (hG : Good s)
    (hno : ¬ AncOrSelf s.heap c p) (hct : c ≠ s.top)
    (hrun : (DomDoc.addElement p c a).run s = (s', r)) (hr : r ≠ .error .RecursionError) : Good s' :=
  guard_inv hG (addElement_runD p c a s ▸ hrun) fun _ hrun => appendChild_good hG hno hct hrun hr

theorem appendNew_good {p t : Id} {k : Kind} {s s' : DState} {r : Except Err Unit} (hG : Good s)
    (hb : Blank s.heap t) (htp : t ≠ p) (htt : t ≠ s.top)
    (hrun : (DomDoc.appendChild p t).run { s with heap := s.heap.set t { kind := k, qn := 0 } } = (s', r))
    (hr : r ≠ .error .RecursionError) : Good s' :=
  appendChild_good (initNode_good hG hb htt k 0) (new_not_above hG.1 hb htp k) htt hrun hr

/-- **C09 (text nodes)**: adding text keeps index and ownerDocument right (and see
    `text_node_append_keeps_index`) -/
theorem addText_good {p t : Id} {a ne : Bool} {s s' : DState} {r : Except Err Unit} (hG : Good s)
    (hb : Blank s.heap t) (htp : t ≠ p) (htt : t ≠ s.top)
    (hrun : (DomDoc.addText p t a ne).run s = (s', r)) (hr : r ≠ .error .RecursionError) : Good s' :=
  guard_inv hG (addText_runD p t a ne s ▸ hrun) fun _ hrun =>
    guard_inv hG hrun fun _ hrun => appendNew_good hG hb htp htt hrun hr

theorem addCDATA_good {p t : Id} {a : Bool} {s s' : DState} {r : Except Err Unit} (hG : Good s)
    (hb : Blank s.heap t) (htp : t ≠ p) (htt : t ≠ s.top)
    (hrun : (DomDoc.addCDATA p t a).run s = (s', r)) (hr : r ≠ .error .RecursionError) : Good s' :=
  guard_inv hG (addCDATA_runD p t a s ▸ hrun) fun _ hrun => appendNew_good hG hb htp htt hrun hr

/-! ### rebuilding the indexes from the top; the document-level type query -/

/-- **C09 (rebuild)**: `rebuild_caches()` from the top yields an index that lists every attached element exactly once -/
theorem rebuildAll_good {s s' : DState} {r : Except Err Unit} (hG : Good s)
    (hrun : (rebuildAll).run s = (s', r)) (hr : r ≠ .error .RecursionError) : Good s' := by
  rcases (rebuildAll_view hrun).2 with hrec | ⟨_, l, hl, hs, ho, ht, hed⟩
  · exact absurd hrec hr
  · -- everything but the index is as in `s`
    obtain ⟨hI1, hA1, hC1⟩ := good_of_sameLinks (s' := { s' with edict := s.edict }) hG hs ht rfl ho
    obtain ⟨hI, hA, _⟩ := hG
    refine ⟨hI1, hA1, hC1.top_elem, hC1.top_root, ?_, ?_, ?_, hC1.owned_iff, hC1.text_unowned⟩
    · intro q; rw [hed q]; exact (elems_nodup hI hA hl).filter _
    · intro q x _
      rw [hed q, att_congr ht hs.parent x, hs.kind x, hs.qn x]
      simp only [List.mem_filter, decide_eq_true_eq, elems_spec hI hl x]
      exact and_assoc
    · intro q hq
      rw [hed q] at hq
      have := (List.mem_filter.mp hq).2
      rw [hs.qn]; simpa using this

theorem docByType_good {q : Nat} {s s' : DState} {r : Except Err (List Id)} (hG : Good s)
    (hrun : (docByType q).run s = (s', r)) (hr : r ≠ .error .RecursionError) : Good s' := by
  rcases rebuildIf_cases hrun with h | ⟨e, hb, he⟩ | ⟨s1, hb, h⟩
  · cases h; exact hG
  · exact rebuildAll_good hG hb (error_ne_recursionError hr he)
  · cases h; exact rebuildAll_good hG hb (ok_ne_recursionError _)

/-- **C09 (document-level query)**: what `doc.getElementsByType(f)` returns has no repetition and
    consists exactly of the attached elements of that qname (the top node aside) -/
theorem docByType_exact {q : Nat} {s s' : DState} {l : List Id} (hG : Good s)
    (hrun : (docByType q).run s = (s', .ok l)) :
    l.Nodup ∧ ∀ x, x ≠ s'.top → (x ∈ l ↔ Att s' x ∧ (s'.heap x).kind = .elem ∧ (s'.heap x).qn = q) := by
  have hG' := docByType_good hG hrun (ok_ne_recursionError _)
  have hl : l = ed s' q := by
    rcases rebuildIf_cases hrun with h | ⟨e, _, he⟩ | ⟨s1, _, h⟩
    · cases h; rfl
    · cases he
    · cases h; rfl
  rw [hl]
  exact ⟨hG'.2.2.nodup q, fun x hx => hG'.2.2.mem_iff q x hx⟩

/-! ### looking a style up by name -/

/-- a style of name `n` currently in the document: an attached style:style element under
    office:styles or office:automatic-styles whose style:name is `n` NOW -/
def Cand (s : DState) (n : Nat) (e : Id) : Prop :=
  Att s e ∧ (s.heap e).kind = .elem ∧ (s.heap e).qn = QN_STYLE ∧ underStyles s e = true ∧
  lookupAttr KEY_STYLE_NAME (s.heap e).attrs = some n

/-- every entry of the style dictionary is a style:style element (it may be stale in every other respect) -/
def SdQ (s : DState) : Prop := ∀ p ∈ s.sdict, (s.heap p.2).qn = QN_STYLE

theorem sdq_of_Rq {s s' : DState} (hQ : SdQ s) (h : Rq s s') : SdQ s' := by
  intro p hp
  rw [h.1 p.2]
  rcases h.2 p hp with h1 | h1
  · exact hQ p h1
  · exact h1

theorem cand_iff_listed {s : DState} (hC : CohIdx s) (n : Nat) (e : Id) :
    Cand s n e ↔ e ∈ ed s QN_STYLE ∧ lookupAttr KEY_STYLE_NAME (s.heap e).attrs = some n ∧ underStyles s e = true := by
  have het : underStyles s e = true → e ≠ s.top := by
    intro hu h; unfold underStyles at hu; rw [h, hC.top_root] at hu; cases hu
  constructor
  · rintro ⟨ha, hk, hq, hu, hn⟩
    exact ⟨(hC.mem_iff QN_STYLE e (het hu)).mpr ⟨ha, hk, hq⟩, hn, hu⟩
  · rintro ⟨hm, hn, hu⟩
    obtain ⟨ha, hk, hq⟩ := (hC.mem_iff QN_STYLE e (het hu)).mp hm
    exact ⟨ha, hk, hq, hu, hn⟩

theorem cand_of_same {s s' : DState} (hh : s'.heap = s.heap) (ht : s'.top = s.top) (n : Nat) (e : Id) :
    Cand s' n e ↔ Cand s n e := by
  unfold Cand Att underStyles; rw [hh, ht]

/-- **C09 (name lookup)**: `getStyleByName(n)` (after its optional index rebuild, `styleByName_eq`)
    * changes nothing but the style dictionary — tree, attributes, element index, owners are untouched;
    * answers nothing exactly when no style of that name is in the document, and otherwise answers a
      style of that name that is in the document NOW (attached, under office:styles or
      office:automatic-styles, bearing the name) — whatever the dictionary held: stale entries (renamed,
      removed, moved, replaced styles) are dropped and never shown.  Two attached styles may bear the
      same name (a user rename, or the 'M'+name of a second clash); either is a correct answer. -/
theorem lookupStyle_spec {n : Nat} {s s' : DState} {r : Option Id} (hG : Good s) (hQ : SdQ s)
    (hrun : (lookupStyle n).run s = (s', .ok r)) :
    (s'.heap = s.heap ∧ s'.edict = s.edict ∧ s'.ownedL = s.ownedL ∧ s'.top = s.top ∧ s'.fix = s.fix) ∧
    (r = none ↔ ∀ e, ¬ Cand s n e) ∧ (∀ e, r = some e → Cand s n e) := by
  have hC := hG.2.2
  obtain ⟨d, o, hs', hr, _, hans, hnone⟩ := lookupStyle_view hrun
  cases hr
  subst hs'
  refine ⟨⟨rfl, rfl, rfl, rfl, rfl⟩, ?_⟩
  have hsome : ∀ e, r = some e → Cand s n e := by
    intro e he
    obtain ⟨hn, hu, ⟨hsd, ho⟩ | hm⟩ := hans e he
    · -- a registered entry: a style:style by `SdQ`, attached because it is owned
      obtain ⟨ha, hk⟩ := (hC.owned_true_iff e).mp ho
      exact ⟨ha, hk, hQ (n, e) (sdGet_mem hsd), hu, hn⟩
    · exact (cand_iff_listed hC n e).mpr ⟨hm, hn, hu⟩
  refine ⟨⟨fun hr e hc => ?_, fun hno => ?_⟩, hsome⟩
  · obtain ⟨hm, hnu⟩ := (cand_iff_listed hC n e).mp hc
    exact hnone hr e hm hnu
  · cases r with
    | none => rfl
    | some e => exact absurd (hsome e rfl) (hno e)

/-- the lookup proper keeps the dictionary well-formed: what the scan registers comes from the style:style index -/
theorem sdq_lookupStyle {n : Nat} {s s' : DState} {r : Except Err (Option Id)} (hG : Good s) (hQ : SdQ s)
    (hrun : (lookupStyle n).run s = (s', r)) : SdQ s' := by
  obtain ⟨d, o, rfl, rfl, hd, _, _⟩ := lookupStyle_view hrun
  intro p hp
  rcases hd p hp with h | h
  · exact hQ p h
  · exact ((lookupStyle_spec hG hQ hrun).2.2 p.2 h).2.2.1

theorem styleByName_good {n : Nat} {s s' : DState} {r : Except Err (Option Id)} (hG : Good s)
    (hrun : (styleByName n).run s = (s', r)) (hr : r ≠ .error .RecursionError) : Good s' := by
  have hlook : ∀ {s1 : DState}, Good s1 → (lookupStyle n).run s1 = (s', r) → Good s' := by
    intro s1 hG1 h
    obtain ⟨d, _, rfl, _⟩ := lookupStyle_view h
    exact good_of_sameLinks hG1 (SameLinks.refl _) rfl rfl rfl
  rcases rebuildIf_cases hrun with h | ⟨e, hb, he⟩ | ⟨s1, hb, h⟩
  · exact hlook hG h
  · exact rebuildAll_good hG hb (error_ne_recursionError hr he)
  · exact hlook (rebuildAll_good hG hb (ok_ne_recursionError _)) h

theorem sdq_styleByName {n : Nat} {s s' : DState} {r : Except Err (Option Id)} (hG : Good s) (hQ : SdQ s)
    (hrun : (styleByName n).run s = (s', r)) : SdQ s' := by
  rcases rebuildIf_cases hrun with h | ⟨e, hb, _⟩ | ⟨s1, hb, h⟩
  · exact sdq_lookupStyle hG hQ h
  · exact sdq_of_Rq hQ (rebuildAll_view hb).1
  · exact sdq_lookupStyle (rebuildAll_good hG hb (ok_ne_recursionError _)) (sdq_of_Rq hQ (rebuildAll_view hb).1) h

/-- **C09 (name lookup, any coherent state)**: `getStyleByName(n)` leaves the tree and its links untouched, keeps the
    element index coherent and the style dictionary well-formed, and answers `none` exactly when no attached
    style:style under office:styles / office:automatic-styles bears the name `n`, otherwise such a style —
    independently of what the style dictionary held. -/
theorem styleByName_spec {n : Nat} {s s' : DState} {r : Option Id} (hG : Good s) (hQ : SdQ s)
    (hrun : (styleByName n).run s = (s', .ok r)) :
    Good s' ∧ SdQ s' ∧ SameLinks s.heap s'.heap ∧
    (r = none ↔ ∀ e, ¬ Cand s' n e) ∧ (∀ e, r = some e → Cand s' n e) := by
  refine ⟨styleByName_good hG hrun (ok_ne_recursionError _), sdq_styleByName hG hQ hrun, ?_⟩
  have hlook : ∀ {s1 : DState}, Good s1 → SdQ s1 → (lookupStyle n).run s1 = (s', .ok r) →
      s'.heap = s1.heap ∧ (r = none ↔ ∀ e, ¬ Cand s' n e) ∧ (∀ e, r = some e → Cand s' n e) := by
    intro s1 hG1 hQ1 h
    obtain ⟨⟨hh, _, _, ht, _⟩, hnone, hsome⟩ := lookupStyle_spec hG1 hQ1 h
    exact ⟨hh, hnone.trans (forall_congr' fun e => not_congr (cand_of_same hh ht n e).symm),
      fun e he => (cand_of_same hh ht n e).mpr (hsome e he)⟩
  rcases rebuildIf_cases hrun with h | ⟨e, _, he⟩ | ⟨s1, hb, h⟩
  · obtain ⟨hh, hrest⟩ := hlook hG hQ h
    exact ⟨by rw [hh]; exact SameLinks.refl _, hrest⟩
  · cases he
  · obtain ⟨hh, hrest⟩ := hlook (rebuildAll_good hG hb (ok_ne_recursionError _)) (sdq_of_Rq hQ (rebuildAll_view hb).1) h
    rcases (rebuildAll_view hb).2 with hrec | ⟨_, _, _, hs, _⟩
    · cases hrec
    · exact ⟨by rw [hh]; exact hs, hrest⟩

/-! ### __replaceGenerator (xml(), metaxml(), save()) -/

/-- a detached childless node `c` is appended to the element `p`: the call succeeds (the traversal of a leaf stays
    within the budget), the heap is the linked one up to attribute values, and every other node keeps its ancestors -/
theorem appendBlank_view {p c : Id} {s s' : DState} {r : Except Err Unit} (hI : Inv s.heap)
    (hkp : (s.heap p).kind = .elem) (hb : Blank s.heap c) (hcp : c ≠ p)
    (hrun : (DomDoc.appendChild p c).run s = (s', r)) :
    r = .ok () ∧ s'.top = s.top ∧ SameLinks (setNext (appRawHeap s.heap p c) c none) s'.heap ∧
    ∀ a y, y ≠ c → (AncOrSelf s'.heap a y ↔ AncOrSelf s.heap a y) := by
  rw [appendChild_runD_detached hkp hb.1] at hrun
  have hkids : (setNext (appRawHeap s.heap p c) c none c).kids = [] := by
    rw [app_apply]; exact (if_neg hcp).trans hb.2
  rcases (childAttached_view hrun).2 with ⟨_, _, hnone⟩ | ⟨hok, l, _, hs, ht, _, _⟩
  · exact absurd hnone (elemsUnder_leaf hkids)
  · have hs' : SameLinks (setNext (appRawHeap s.heap p c) c none) s'.heap := hs
    refine ⟨hok, ht, hs', fun a y hy => ?_⟩
    -- `y` is not below the childless `c`
    exact AncOrSelf.off_iff (fun z hz => by rw [hs'.parent z, app_apply]; exact if_neg hz)
      fun ha => hy (AncOrSelf.eq_of_no_kids (inv_sameLinks (app_inv hI hkp hb.1) hs') ((hs'.kids c).trans hkids) ha)

/-- the loop invariant of `__replaceGenerator`: the two new objects are still unused -/
def GeneratorLoopInv (g t : Id) (top : Id) (s : DState) : Prop :=
  Good s ∧ Blank s.heap g ∧ Blank s.heap t ∧ s.top = top

theorem generatorLoopInv_step {mt g t top m : Id} {s s' : DState} {r : Except Err Unit} (hP : GeneratorLoopInv g t top s)
    (hrun : (dropGenerator mt m).run s = (s', r)) (hr : r ≠ .error .RecursionError) : GeneratorLoopInv g t top s' := by
  obtain ⟨hG, hbg, hbt, htop⟩ := hP
  rcases dropGenerator_cases hrun with hrm | ⟨rfl, -⟩
  · rcases (removeChild_view hrm).2 with ⟨e, _⟩ | hrec | ⟨_, _, l, _, hheap, hdrop⟩
    · rw [e]; exact ⟨hG, hbg, hbt, htop⟩
    · exact absurd hrec hr
    · exact ⟨removeChild_good hG hrm hr, by rw [hheap]; exact blank_rmHeap hbg mt m,
        by rw [hheap]; exact blank_rmHeap hbt mt m, hdrop.top.trans htop⟩
  · exact ⟨hG, hbg, hbt, htop⟩

/-- **C09 (`__replaceGenerator()`)** — run by `xml()`, `metaxml()` and `save()`:
    every meta:generator child of the office:meta element is removed, a new generator
    with its text is built and added — keeps index and ownerDocument coherent.  `g`, `t` are the
    new objects (unused ids, distinct from each other, from `meta` and from the top node). -/
theorem replaceGenerator_good {mt g t : Id} {s s' : DState} {r : Except Err Unit} (hG : Good s)
    (hbg : Blank s.heap g) (hbt : Blank s.heap t)
    (hgt : g ≠ t) (hgm : g ≠ mt) (htm : t ≠ mt) (hgtop : g ≠ s.top) (httop : t ≠ s.top)
    (hrun : (replaceGenerator mt g t).run s = (s', r)) (hr : r ≠ .error .RecursionError) : Good s' := by
  rw [replaceGenerator_eq] at hrun
  simp only [DomDoc.run_bind_rd] at hrun
  -- the loop of removals keeps `Good` and leaves `g`, `t` unused
  have hloop := forEach_inv (ok := (· ≠ .error .RecursionError)) (P := GeneratorLoopInv g t s.top)
    (f := dropGenerator mt) (ok_ne_recursionError _) generatorLoopInv_step (s.heap mt).kids s
  rcases run_bind_cases hrun with ⟨e, hl, he⟩ | ⟨s1, _, hl, hrun⟩
  · exact (hloop _ _ ⟨hG, hbg, hbt, rfl⟩ hl (error_ne_recursionError hr he)).1
  obtain ⟨hG1, hbg1, hbt1, htop1⟩ := hloop _ _ ⟨hG, hbg, hbt, rfl⟩ hl (ok_ne_recursionError _)
  rw [run_bind_liftH, initNode_run] at hrun
  simp only at hrun
  -- the new generator element `g` (not the top node), still without links, in the state `s2` of which only heap and
  -- top node matter (named, so that `addText_good` does not see the record update); then its text node `t` (not `g`,
  -- not the top node)
  have hG2 := initNode_good hG1 hbg1 (by rw [htop1]; exact hgtop) .elem QN_GENERATOR
  generalize hs2 : ({ s1 with heap := s1.heap.set g { kind := .elem, qn := QN_GENERATOR } } : DState) = s2 at hrun hG2
  have hh2 : s2.heap = s1.heap.set g { kind := .elem, qn := QN_GENERATOR } := by rw [← hs2]
  have ht2 : s2.top = s.top := by rw [← hs2]; exact htop1
  have hbt2 : Blank s2.heap t := by rw [hh2]; exact blank_initHeap hbt1 _ _ _
  rcases run_bind_cases hrun with ⟨e, hat, he⟩ | ⟨s3, _, hat, hrun⟩
  · exact addText_good hG2 hbt2 (Ne.symm hgt) (by rw [ht2]; exact httop) hat (error_ne_recursionError hr he)
  have hG3 := addText_good hG2 hbt2 (Ne.symm hgt) (by rw [ht2]; exact httop) hat (ok_ne_recursionError _)
  rw [addText_runD] at hat
  have hI2 := initNode_inv hG2.1 hbt2 .text 0
  obtain ⟨_, ht3, _, hanc⟩ := appendBlank_view (s := { s2 with heap := s2.heap.set t { kind := .text, qn := 0 } })
    hI2 (by rw [Heap.set_other _ _ _ _ hgt, hh2]; simp) (blank_initHeap hbt2 _ _ _) (Ne.symm hgt) hat
  -- `meta.addElement(g)`: to show is that `g` is not above `meta`
  refine addElement_good hG3 (fun ha => hgm ?_) (by rw [ht3, ht2]; exact hgtop) hrun hr
  -- before `t` was appended `g` had no child, and `mt` is not `t`
  refine (AncOrSelf.eq_of_no_kids hI2 ?_ ((hanc g mt (Ne.symm htm)).mp ha)).symm
  have hbg2 : Blank s2.heap g := by rw [hh2]; exact blank_initHeap hbg1 _ _ _
  exact (blank_initHeap hbg2 t _ _).2

/-! ### a fresh document -/

/-- `OpenDocument.__init__` up to `clear_caches()`: a childless top node `0` of qname `q`, owned by
    the document, empty indexes -/
def freshDoc (q : Nat) : DState :=
  runD DState.init [.tree (.newNode 0 .elem q), .mkDoc 0]

/-- `freshDoc q` written out -/
def fresh0 (q : Nat) : DState :=
  { heap := Heap.empty.set 0 { kind := .elem, qn := q }, ownedL := [(0, true)], top := 0,
    edict := [], sdict := [], fix := [] }

theorem freshDoc_eq (q : Nat) : freshDoc q = fresh0 q := rfl

theorem fresh0_owned (q : Nat) (x : Id) : (fresh0 q).owned x = decide (x = 0) := by
  by_cases hx : x = 0
  · subst hx; rfl
  · have : (x == 0) = false := by simp [hx]
    simp [fresh0, DState.owned, List.lookup, hx, this]

theorem good_fresh (q : Nat) : Good (freshDoc q) := by
  rw [freshDoc_eq]
  have hb : Blank Heap.empty 0 := ⟨rfl, rfl⟩
  have hpar : ∀ y, ((fresh0 q).heap y).parent = none := fun y => initHeap_parent hb .elem q y
  have hkind0 : ((fresh0 q).heap 0).kind = .elem := by
    show ((Heap.empty.set 0 { kind := .elem, qn := q }) 0).kind = .elem
    simp
  have hatt : ∀ x, Att (fresh0 q) x → x = 0 := fun x ha => AncOrSelf.eq_of_no_parent (hpar x) ha
  refine ⟨initNode_inv inv_empty hb .elem q, acyclic_of_same_parents acyclic_empty (initHeap_parent hb .elem q),
    hkind0, hpar 0, fun _ => List.nodup_nil, ?_, ?_, ?_, ?_⟩
  · intro qq x hx
    exact ⟨fun hm => (by cases hm), fun ⟨ha, _⟩ => absurd (hatt x ha) hx⟩
  · intro qq hm; cases hm
  · intro x _
    rw [fresh0_owned]
    by_cases hx : x = 0
    · subst hx; simp; exact AncOrSelf.refl
    · simp only [hx, decide_false, Bool.false_eq_true, false_iff]
      intro ha; exact hx (hatt x ha)
  · intro x hk
    rw [fresh0_owned]
    have hx : x ≠ 0 := by intro e; subst e; exact hk hkind0
    simp [hx]

/-! ### every operation; every history -/

/-- side conditions of a step: the caller error the property excludes (a node inserted into itself
    or its own descendant), the document's top node is never re-created or inserted anywhere, new
    Text objects are not their receiver; `mkDoc` belongs to document creation only; for
    `replaceGenerator` the office:meta element is an attached element and the two new ids differ from
    each other, from it and from the top node -/
def OpOk (s : DState) : DOp → Prop
  | .tree (.newNode i _ _) => i ≠ s.top
  | .tree (.append p c) => ¬ AncOrSelf s.heap c p ∧ c ≠ s.top
  | .tree (.insertBefore p n _) => ¬ AncOrSelf s.heap n p ∧ n ≠ s.top
  | .tree (.addElement p c _) => ¬ AncOrSelf s.heap c p ∧ c ≠ s.top
  | .tree (.addText p t _ _) => t ≠ p ∧ t ≠ s.top
  | .tree (.addCDATA p t _) => t ≠ p ∧ t ≠ s.top
  | .tree _ => True
  | .mkDoc _ => False
  | .byType _ => True
  | .styleByName _ => True
  | .replaceGenerator mt g t => Att s mt ∧ (s.heap mt).kind = .elem ∧ g ≠ t ∧ g ≠ mt ∧ t ≠ mt ∧ g ≠ s.top ∧ t ≠ s.top

/-- **C09 (one step)**: every operation of a history — tree edits on attached and detached
    parents, whole subtrees added / removed / re-added / moved, text nodes, attribute calls, the
    two document-level queries (which may rebuild the indexes) — keeps the element index and
    ownerDocument coherent with the tree, whether it succeeds or is refused. -/
theorem coherent_step_partial {s s' : DState} {op : DOp} {r : Except Err Unit} (hG : Good s) (hok : OpOk s op)
    (hrun : (stepD op).run s = (s', r)) (hr : r ≠ .error .RecursionError) : Good s' := by
  cases op with
  | mkDoc t => exact absurd hok id
  | replaceGenerator m g t =>
    obtain ⟨_, _, hgt, hgm, htm, hgtop, httop⟩ := hok
    exact fresh_inv hG hrun fun hbg hrun => fresh_inv hG hrun fun hbt hrun =>
      replaceGenerator_good hG hbg hbt hgt hgm htm hgtop httop hrun hr
  | byType q =>
    obtain ⟨r', hb, hr'⟩ := discard_cases hrun
    exact docByType_good hG hb (fun h => hr (hr' h))
  | styleByName n =>
    obtain ⟨r', hb, hr'⟩ := discard_cases hrun
    exact styleByName_good hG hb (fun h => hr (hr' h))
  | tree top =>
    cases top with
    | newNode i k qn =>
      exact guard_inv hG (newNode_run i k qn s ▸ hrun) fun hb e => by cases e; exact initNode_good hG hb hok k qn
    | append p c => exact appendChild_good hG hok.1 hok.2 hrun hr
    | insertBefore p n ref => exact insertBefore_good hG hok.1 hok.2 hrun hr
    | remove p c => exact removeChild_good hG hrun hr
    | addElement p c a => exact addElement_good hG hok.1 hok.2 hrun hr
    | addText p t a ne =>
      exact fresh_inv hG hrun fun hb hrun => addText_good hG hb hok.1 hok.2 hrun hr
    | addCDATA p t a =>
      exact fresh_inv hG hrun fun hb hrun => addCDATA_good hG hb hok.1 hok.2 hrun hr
    | setAttribute | setAttrNS | removeAttribute =>
      obtain ⟨e', hs⟩ := attrOp_sameLinks rfl hrun
      rw [e']; exact good_of_sameLinks hG hs rfl rfl rfl

/-- a history whose every step meets the side conditions and stays within the recursion budget -/
def HistoryOk : DState → List DOp → Prop
  | _, [] => True
  | s, op :: rest => OpOk s op ∧ ((stepD op).run s).2 ≠ .error .RecursionError ∧ HistoryOk ((stepD op).run s).1 rest

theorem coherent_runD {ops : List DOp} : ∀ {s}, Good s → HistoryOk s ops → Good (runD s ops) := by
  induction ops with
  | nil => intro s hG _; exact hG
  | cons op rest ih =>
    intro s hG hh
    exact ih (coherent_step_partial hG hh.1 rfl hh.2.1) hh.2.2

/-- **C09 (any history)**: from a fresh document, after an edit history of ANY length, the element
    index lists exactly the attached elements, each once, under its qname, and ownerDocument is
    set exactly on the attached elements.  (`_partial`: `HistoryOk` excludes calls that raised
    RecursionError, the insertion of a node into itself or its own descendant, and what else `OpOk`
    lists.) -/
theorem coherent_reachable_partial (q : Nat) (ops : List DOp) (hh : HistoryOk (freshDoc q) ops) :
    Good (runD (freshDoc q) ops) :=
  coherent_runD (good_fresh q) hh

/-! ### consequences in the words of the property -/

/-- "each exactly once": the list kept for a qname is a permutation of ANY duplicate-free
    enumeration of the attached elements of that qname -/
theorem coh_perm {s : DState} (hC : CohIdx s) (q : Nat) (hq : (s.heap s.top).qn ≠ q) (l : List Id) (hl : l.Nodup)
    (hmem : ∀ x, x ∈ l ↔ x ≠ s.top ∧ Att s x ∧ (s.heap x).kind = .elem ∧ (s.heap x).qn = q) :
    (ed s q).Perm l := by
  rw [List.perm_ext_iff_of_nodup (hC.nodup q) hl]
  intro x
  by_cases hx : x = s.top
  · subst hx
    constructor
    · intro hm; exact absurd (hC.top_mem q hm) hq
    · intro hm; exact absurd rfl ((hmem _).mp hm).1
  · rw [hC.mem_iff q x hx, hmem x]; simp [hx]

/-- **C09 ("elements of detached subtrees never appear")** -/
theorem detached_never_listed {s : DState} (hC : CohIdx s) {x : Id} (hx : ¬ Att s x) (q : Nat) : x ∉ ed s q := by
  intro hm
  by_cases ht : x = s.top
  · subst ht; exact hx AncOrSelf.refl
  · exact hx ((hC.mem_iff q x ht).mp hm).1

/-! ### every entry of the style dictionary is a style:style element, in every reachable state -/

/-- a predicate on states that only looks at qnames -/
def QnOnly (P : DState → Prop) : Prop := ∀ s s', (∀ y, (s'.heap y).qn = (s.heap y).qn) → P s → P s'

/-- under `P`, the statement sequence relates its start and end states by `Rq` and keeps `P` -/
def Grow (P : DState → Prop) {α : Type} (m : DM α) : Prop :=
  ∀ s s' r, P s → m.run s = (s', r) → Rq s s' ∧ P s'

theorem grow_raise (P : DState → Prop) {α : Type} (e : Err) : Grow P (raiseD e : DM α) := by
  intro s s' r hP h; cases h; exact ⟨Rq.refl s, hP⟩

theorem grow_weaken {P : DState → Prop} {α : Type} {m : DM α} (h : Grow (fun _ => True) m) (hQ : QnOnly P) :
    Grow P m := by
  intro s s' r hP hrun
  obtain ⟨h1, _⟩ := h s s' r trivial hrun
  exact ⟨h1, hQ s s' h1.1 hP⟩

/-- no entry of the style dictionary refers to the node `i` -/
def NotInSd (s : DState) (i : Id) : Prop := ∀ p ∈ s.sdict, p.2 ≠ i

theorem sdq_initNode {s : DState} (hQ : SdQ s) {i : Id} (hn : NotInSd s i) (k : Kind) (qn : Nat) :
    SdQ { s with heap := s.heap.set i { kind := k, qn := qn } } := by
  intro p hp
  show ((s.heap.set i { kind := k, qn := qn }) p.2).qn = QN_STYLE
  rw [Heap.set_other _ _ _ _ (hn p hp)]; exact hQ p hp

theorem notInSd_of_Rq {s s' : DState} {i : Id} (hn : NotInSd s i) (hq : (s.heap i).qn ≠ QN_STYLE) (h : Rq s s') :
    NotInSd s' i := by
  intro p hp e
  rcases h.2 p hp with h1 | h1
  · exact hn p h1 e
  · rw [e] at h1; exact hq h1

theorem sdq_addText {p t : Id} {a ne : Bool} {s s' : DState} {r : Except Err Unit} (hQ : SdQ s) (hn : NotInSd s t)
    (hrun : (DomDoc.addText p t a ne).run s = (s', r)) : SdQ s' :=
  guard_inv hQ (addText_runD p t a ne s ▸ hrun) fun _ hrun =>
    guard_inv hQ hrun fun _ hrun => sdq_of_Rq (sdq_initNode hQ hn .text 0) (appendChild_rq hrun)

theorem sdq_addCDATA {p t : Id} {a : Bool} {s s' : DState} {r : Except Err Unit} (hQ : SdQ s) (hn : NotInSd s t)
    (hrun : (DomDoc.addCDATA p t a).run s = (s', r)) : SdQ s' :=
  guard_inv hQ (addCDATA_runD p t a s ▸ hrun) fun _ hrun =>
    sdq_of_Rq (sdq_initNode hQ hn .cdata 0) (appendChild_rq hrun)

theorem sdq_replaceGenerator {mt g t : Id} {s s' : DState} {r : Except Err Unit} (hQ : SdQ s)
    (hng : NotInSd s g) (hnt : NotInSd s t) (hqg : (s.heap g).qn ≠ QN_STYLE) (hqt : (s.heap t).qn ≠ QN_STYLE)
    (hrun : (replaceGenerator mt g t).run s = (s', r)) : SdQ s' := by
  rw [replaceGenerator_eq] at hrun
  simp only [DomDoc.run_bind_rd] at hrun
  have hloop := forEach_inv (ok := fun _ => True) (P := Rq s) (f := dropGenerator mt) trivial
    (fun hP h _ => Rq.trans hP (dropGenerator_rq h)) (s.heap mt).kids s
  rcases run_bind_cases hrun with ⟨e, hl, _⟩ | ⟨s1, _, hl, hrun⟩
  · exact sdq_of_Rq hQ (hloop _ _ (Rq.refl s) hl trivial)
  have hR1 := hloop _ _ (Rq.refl s) hl trivial
  rw [run_bind_liftH, initNode_run] at hrun
  have hQ2 := sdq_initNode (sdq_of_Rq hQ hR1) (notInSd_of_Rq hng hqg hR1) .elem QN_GENERATOR
  have hnt1 : NotInSd s1 t := notInSd_of_Rq hnt hqt hR1
  rcases run_bind_cases hrun with ⟨e, hat, _⟩ | ⟨s3, _, hat, hrun⟩
  · exact sdq_addText hQ2 hnt1 hat
  · exact sdq_of_Rq (sdq_addText hQ2 hnt1 hat) (addElement_rq hrun)

/-- allocation discipline towards the style dictionary: a new object is none the dictionary still
    refers to (and, for the generator objects, not a former style:style) -/
def OpOkSd (s : DState) : DOp → Prop
  | .tree (.newNode i _ _) => NotInSd s i
  | .tree (.addText _ t _ _) => NotInSd s t
  | .tree (.addCDATA _ t _) => NotInSd s t
  | .replaceGenerator _ g t => NotInSd s g ∧ NotInSd s t ∧ (s.heap g).qn ≠ QN_STYLE ∧ (s.heap t).qn ≠ QN_STYLE ∧ g ≠ t
  | _ => True

theorem sdq_step {s s' : DState} {op : DOp} {r : Except Err Unit} (hG : Good s) (hQ : SdQ s) (hok : OpOkSd s op)
    (hrun : (stepD op).run s = (s', r)) : SdQ s' := by
  cases op with
  | mkDoc t =>
    simp only [stepD, mkDoc] at hrun; cases hrun
    intro p hp; cases hp
  | replaceGenerator m g t =>
    obtain ⟨hng, hnt, hqg, hqt, _⟩ := hok
    exact fresh_inv hQ hrun fun _ hrun => fresh_inv hQ hrun fun _ hrun =>
      sdq_replaceGenerator hQ hng hnt hqg hqt hrun
  | byType q =>
    obtain ⟨r', hb, _⟩ := discard_cases hrun
    exact sdq_of_Rq hQ (docByType_rq hb)
  | styleByName n =>
    obtain ⟨r', hb, _⟩ := discard_cases hrun
    exact sdq_styleByName hG hQ hb
  | tree top =>
    cases top with
    | newNode i k qn =>
      exact guard_inv hQ (newNode_run i k qn s ▸ hrun) fun _ e => by cases e; exact sdq_initNode hQ hok k qn
    | append p c => exact sdq_of_Rq hQ (appendChild_rq hrun)
    | insertBefore p n ref => exact sdq_of_Rq hQ (insertBefore_rq hrun)
    | remove p c => exact sdq_of_Rq hQ (removeChild_view hrun).1
    | addElement p c a => exact sdq_of_Rq hQ (addElement_rq hrun)
    | addText p t a ne =>
      exact fresh_inv hQ hrun fun _ hrun => sdq_addText hQ hok hrun
    | addCDATA p t a =>
      exact fresh_inv hQ hrun fun _ hrun => sdq_addCDATA hQ hok hrun
    | setAttribute | setAttrNS | removeAttribute =>
      obtain ⟨e', hs⟩ := attrOp_sameLinks rfl hrun
      rw [e']; exact sdq_of_Rq hQ (Rq.of_heap s hs.qn)

/-- `HistoryOk`, and at every step the allocation discipline `OpOkSd` as well -/
def HistoryOk2 : DState → List DOp → Prop
  | _, [] => True
  | s, op :: rest => OpOk s op ∧ OpOkSd s op ∧ ((stepD op).run s).2 ≠ .error .RecursionError ∧
      HistoryOk2 ((stepD op).run s).1 rest

theorem reachable_runD {ops : List DOp} : ∀ {s}, Good s → SdQ s → HistoryOk2 s ops →
    Good (runD s ops) ∧ SdQ (runD s ops) := by
  induction ops with
  | nil => intro s hG hQ _; exact ⟨hG, hQ⟩
  | cons op rest ih =>
    intro s hG hQ hh
    exact ih (coherent_step_partial hG hh.1 rfl hh.2.2.1) (sdq_step hG hQ hh.2.1 rfl) hh.2.2.2

/-- **C09 (name lookup, every reachable state)**: in every state reachable from a fresh document
    (side conditions `HistoryOk2`: those of `coherent_reachable_partial`, and new objects are none the
    style dictionary still refers to, `OpOkSd`), `getStyleByName(n)` leaves the tree and its links
    untouched, keeps the element index coherent, and answers `none` exactly when no attached style:style under office:styles /
    office:automatic-styles bears the name `n`, otherwise such a style — independently of what the
    style dictionary held. -/
theorem getStyleByName_correct_partial (q : Nat) (ops : List DOp) (hh : HistoryOk2 (freshDoc q) ops)
    {n : Nat} {s' : DState} {r : Option Id}
    (hrun : (styleByName n).run (runD (freshDoc q) ops) = (s', .ok r)) :
    Good s' ∧ SdQ s' ∧ SameLinks (runD (freshDoc q) ops).heap s'.heap ∧
    (r = none ↔ ∀ e, ¬ Cand s' n e) ∧ (∀ e, r = some e → Cand s' n e) := by
  obtain ⟨hG, hQ⟩ := reachable_runD (good_fresh q) (fun p hp => by cases hp) hh
  exact styleByName_spec hG hQ hrun

/-- the hypotheses of `coherent_reachable_partial` are satisfiable: a P-like element 1 is created, added
    under the top node, and queried -/
example : HistoryOk (freshDoc 9) [.tree (.newNode 1 .elem 5), .tree (.append 0 1), .byType 5] := by
  refine ⟨?_, ok_ne_recursionError (), ⟨?_, ?_⟩, ok_ne_recursionError (), trivial, ok_ne_recursionError (), trivial⟩
  · show (1 : Nat) ≠ (freshDoc 9).top
    decide
  · intro ha
    exact absurd (AncOrSelf.eq_of_no_parent (by decide) ha) (by decide)
  · show (1 : Nat) ≠ ((stepD (.tree (.newNode 1 .elem 5))).run (freshDoc 9)).1.top
    decide

example : ed (runD (freshDoc 9) [.tree (.newNode 1 .elem 5), .tree (.append 0 1), .byType 5]) 5 = [1] := by decide

/-! ### the lookups of the findings KF-C09-1/2 (findings/C09.md), by evaluation -/

section
local instance {α : Type} [DecidableEq α] : DecidableEq (Except Err α)
  | .ok a, .ok b => if h : a = b then isTrue (by rw [h]) else isFalse (fun e => by cases e; exact h rfl)
  | .error a, .error b => if h : a = b then isTrue (by rw [h]) else isFalse (fun e => by cases e; exact h rfl)
  | .ok _, .error _ => isFalse (fun e => by cases e)
  | .error _, .ok _ => isFalse (fun e => by cases e)


/-- document 0 with office:styles 1 (attached) and a style 2 named 7 under it -/
def docWithStyle : DState :=
  runD (freshDoc 9) [.tree (.newNode 1 .elem QN_STYLES), .tree (.append 0 1), .tree (.newNode 2 .elem QN_STYLE),
    .tree (.setAttrNS 2 KEY_STYLE_NAME (.ok 7)), .tree (.append 1 2)]

/-- after a rename of the attached style the new name finds it and the old name finds nothing; after its
    removal neither does -/
example :
    let s1 := runD docWithStyle [.tree (.setAttrNS 2 KEY_STYLE_NAME (.ok 8))]
    let s2 := runD s1 [.tree (.remove 1 2)]
    ((styleByName 8).run s1).2 = .ok (some 2) ∧ ((styleByName 7).run s1).2 = .ok none ∧
    ((styleByName 8).run s2).2 = .ok none ∧ ((styleByName 7).run s2).2 = .ok none := by
  intro s1 s2
  decide +kernel

/-- styles 'MA' (2), 'A' (3), then a second 'A' (4, renamed 'MA' on the clash): after 4 is removed
    the lookup of 'MA' finds the older style 2 again -/
example :
    let s := runD (freshDoc 9) [.tree (.newNode 1 .elem QN_STYLES), .tree (.append 0 1),
      .tree (.newNode 2 .elem QN_STYLE), .tree (.setAttrNS 2 KEY_STYLE_NAME (.ok (mName 7))), .tree (.append 1 2),
      .tree (.newNode 3 .elem QN_STYLE), .tree (.setAttrNS 3 KEY_STYLE_NAME (.ok 7)), .tree (.append 1 3),
      .tree (.newNode 4 .elem QN_STYLE), .tree (.setAttrNS 4 KEY_STYLE_NAME (.ok 7)), .tree (.append 1 4)]
    let s' := runD s [.tree (.remove 1 4)]
    ((styleByName (mName 7)).run s).2 = .ok (some 4) ∧ ((styleByName (mName 7)).run s').2 = .ok (some 2) := by
  intro s s'
  decide +kernel

end

end OdfModel.Props.C09
