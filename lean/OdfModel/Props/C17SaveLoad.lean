/-
  Property C17, the save/load leg: the nodes inserted by the whitespace helper, embedded in the element tree of the
  XML layer, written by the writer and read back by the reference parser (C02), still yield the inserted string.

  `embedF` turns the helper's abstract children into real tree nodes (`<text:s text:c="n"/>`, `<text:tab/>`,
  `<text:line-break/>`, text, CDATA); `extractXN`/`extractXF` are `extractText` on real trees (it reads `text:c` with `int()`);
  `canonTF` is what a parser returns for the written children (OdfModel.Xml.NsRoundTrip).
-/
import OdfModel.Props.C17
import OdfModel.Xml.Compose
import OdfModel.NsLemmas
namespace OdfModel.Props.C17
open OdfModel OdfModel.Teletype OdfModel.Xml OdfModel.Ns

/-- `urn:oasis:names:tc:opendocument:xmlns:text:1.0` -/
def TEXTNS : Str :=
  [117, 114, 110, 58, 111, 97, 115, 105, 115, 58, 110, 97, 109, 101, 115, 58, 116, 99, 58, 111, 112, 101, 110, 100, 111,
   99, 117, 109, 101, 110, 116, 58, 120, 109, 108, 110, 115, 58, 116, 101, 120, 116, 58, 49, 46, 48]
def qS : QName := ⟨TEXTNS, [115]⟩
def qC : QName := ⟨TEXTNS, [99]⟩
def qTab : QName := ⟨TEXTNS, [116, 97, 98]⟩
def qLb : QName := ⟨TEXTNS, [108, 105, 110, 101, 45, 98, 114, 101, 97, 107]⟩
def qOther : QName := ⟨TEXTNS, [115, 112, 97, 110]⟩     -- any element extractText recurses into (text:span)

mutual
def embedN : TNode → Node
  | .text s => .text s
  | .cdata s => .cdata s
  | .sp n => .elem qS [(qC, dec n)] .nil          -- S(c=n) stores str(n)
  | .spNoC => .elem qS [] .nil
  | .tab => .elem qTab [] .nil
  | .lb => .elem qLb [] .nil
  | .elem ks => .elem qOther [] (embedF ks)
def embedF : List TNode → Forest
  | [] => .nil
  | k :: ks => .cons (embedN k) (embedF ks)
end

/-- `getAttribute`: the value of the first attribute named `q` -/
def lookupAttr (q : QName) : List (QName × Str) → Option Str
  | [] => none
  | (a, v) :: r => if a = q then some v else lookupAttr q r

mutual
/-- `extractText` on real tree nodes -/
def extractXN : Node → Str
  | .text s => s
  | .cdata _ => []
  | .elem q attrs kids =>
    if q = qLb then [LF]
    else if q = qTab then [TAB]
    else if q = qS then
      match lookupAttr qC attrs with
      | some v => if v.isEmpty then [SP] else List.replicate (undec v) SP     -- `if c: int(c) else 1`, `undec` for `int`
      | none => [SP]
    else extractXF kids
def extractXF : Forest → Str
  | .nil => []
  | .cons h t => extractXN h ++ extractXF t
end

theorem q_distinct : qS ≠ qLb ∧ qS ≠ qTab ∧ qTab ≠ qLb ∧ qOther ≠ qLb ∧ qOther ≠ qTab ∧ qOther ≠ qS :=
  ⟨QName.ne_of_loc (by decide), QName.ne_of_loc (by decide), QName.ne_of_loc (by decide), QName.ne_of_loc (by decide),
    QName.ne_of_loc (by decide), QName.ne_of_loc (by decide)⟩

mutual
/-- the embedding is faithful: `extractText` on the real nodes is the helper-level `extract` -/
theorem extractXN_embedN (k : TNode) : extractXN (embedN k) = extract k := by
  obtain ⟨h1, h2, h3, h4, h5, h6⟩ := q_distinct
  cases k with
  | sp n => simp [embedN, extractXN, extract, lookupAttr, dec_ne_nil, undec_dec, h1, h2]
  | elem ks => simp only [embedN, extractXN, extract, h4, h5, h6, if_false]; exact extractXF_embedF ks
  | _ => simp [embedN, extractXN, extract, lookupAttr, h1, h2, h3]
theorem extractXF_embedF (ks : List TNode) : extractXF (embedF ks) = extractL ks := by
  cases ks with
  | nil => simp [embedF, extractXF]
  | cons k r => simp only [embedF, extractXF, extractL]; rw [extractXN_embedN k, extractXF_embedF r]
end

theorem extractXF_flushT (acc : Str) (f : Forest) : extractXF (flushT acc f) = acc ++ extractXF f := by
  cases acc <;> simp [flushT, extractXF, extractXN]

theorem hu_digits (n : Nat) : (dec n).map hu = dec n :=
  map_hu_printable fun c hc => by have := digits_all_digit (n + 1) n c hc; omega

/-- what `extractText` returns on the canonical form of the written children: the pending character data, then the
    helper-level text with every character passed through the writer's filter.  Stated for the node kinds the helper
    produces (`CleanNode`: non-empty text, `<text:s text:c="n"/>` with n ≥ 1, tab, line-break). -/
theorem extractXF_canonTF (ks : List TNode) (hk : ks.all CleanNode = true) : ∀ acc : Str,
    extractXF (canonTF acc (embedF ks)) = acc ++ (extractL ks).map hu := by
  have hws : hu SP = SP ∧ hu TAB = TAB ∧ hu LF = LF := by decide
  induction ks with
  | nil => intro acc; simp [embedF, canonTF, extractXF_flushT, extractXF]
  | cons k r ih =>
    intro acc
    simp only [List.all_cons, Bool.and_eq_true] at hk
    have ih' := ih hk.2
    cases k with
    | text s => simp only [embedF, embedN, canonTF, ih', extractL, extract, List.map_append, List.append_assoc]
    | cdata _ | spNoC | elem _ => exact absurd hk.1 Bool.false_ne_true
    | sp n | tab | lb =>
      -- a leaf element: the pending data is flushed, then the element, then the rest with nothing pending
      simp only [embedF, embedN, canonTF, extractXF_flushT, extractXF, ih' [], extractL, extract, List.map_append]
      -- the filter leaves what the element stands for alone: blank, TAB, LF, and the digits of the count `str(n)`
      simp [extractXN, huAttrsQ, lookupAttr, hu_digits, dec_ne_nil, undec_dec, q_distinct, hws]

/-- **C17 (after save and load, through the XML layer)**: for every string `s` of characters XML can represent
    (`hu c = c`), what `extractText` returns on the parser's view of the nodes `addTextToElement` inserted is `s`. -/
theorem roundtrip_through_canon (s : Str) (hs : ∀ c ∈ s, hu c = c) :
    extractXF (canonTF [] (embedF (enc [] s))) = s := by
  rw [extractXF_canonTF (enc [] s) (no_raw_whitespace s) [], roundtrip, List.nil_append, map_eq_self hs]

/-- the same, spelled out with the writer and the reference parser: a paragraph `q` holding exactly the inserted nodes,
    written with any admissible table and parsed back, yields an element whose extracted text is `s` -/
theorem roundtrip_saveload (tbl : NsTable) (q : QName) (s : Str) (hs : ∀ c ∈ s, hu c = c)
    (ht : TableOK tbl) (hcl : NsClean tbl) (hok : TreeOK tbl (.elem q [] (embedF (enc [] s)))) :
    ∃ kids, OdfModel.Spec.parseDoc (render tbl (.elem q [] (embedF (enc [] s)))) = some (.elem q [] kids) ∧ extractXF kids = s := by
  refine ⟨canonTF [] (embedF (enc [] s)), ?_, roundtrip_through_canon s hs⟩
  have := parseDoc_render tbl q [] (embedF (enc [] s)) ht hcl hok
  simpa [canonT, huAttrsQ] using this

end OdfModel.Props.C17
