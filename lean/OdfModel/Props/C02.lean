/-
  Property C02 — parsing emitted XML gives back exactly the in-memory tree.

  Model: `OdfModel.Xml` (Escape, Tree) = odf/element.py's encoders and `toXml`; reference parser `OdfModel.Spec.parseDoc`.
  Tie: harness/c02.py (byte-exact correspondence of `toXml` with `printNode ∘ rawRoot`, all code points through the
  three encoders, reference parser vs expat).
-/
import OdfModel.Xml.Encodable
namespace OdfModel.Props.C02
open OdfModel OdfModel.Xml OdfModel.Spec

/-- what the property permits: exactly the characters XML 1.0 cannot represent become U+FFFD -/
def repl (c : Cp) : Cp := if isXmlChar c then c else 0xFFFD

/-- `huAttrsQ`, `canonTF`, `canonT` with `repl` in place of the library's filter `hu` -/
def replAttrs : List (QName × Str) → List (QName × Str)
  | [] => []
  | (q, v) :: r => (q, v.map repl) :: replAttrs r

def canonRF (acc : Str) : Forest → Forest
  | .nil => flushT acc .nil
  | .cons (.text s) t => canonRF (acc ++ s.map repl) t
  | .cons (.cdata s) t => canonRF (acc ++ s.map repl) t
  | .cons (.elem q attrs kids) t => flushT acc (.cons (.elem q (replAttrs attrs) (canonRF [] kids)) (canonRF [] t))

/-- the property's canonical form, what it demands a parser to return for a rendering: the tree itself — elements by
    (namespace, local name) in order, attributes with character-identical values, character data in place — up to
    CDATA-vs-text, merging of adjacent character data, and U+FFFD for XML-unrepresentable characters only -/
def canonR : Node → Node
  | .elem q attrs kids => .elem q (replAttrs attrs) (canonRF [] kids)
  | n => n

/-- **C02, FULL STATEMENT** (what the property demands of every rendering): the reference parser returns `canonR` of the
    tree.  Kept as the statement the property asks for; it does not hold of the library as modelled, for trees
    containing "discouraged" code points (known finding KF-C02-1: `finding_discouraged`, and
    `full_statement_false_witness` for what the parser returns instead).  It is proved below as `print_parse_partial` for
    all other trees and as `print_parse` with the library's own filter. -/
def FullStatement : Prop :=
  ∀ (tbl : NsTable) (q : QName) (attrs : List (QName × Str)) (kids : Forest),
    TableOK tbl → NsClean tbl → TreeOK tbl (.elem q attrs kids) →
    parseDoc (render tbl (.elem q attrs kids)) = some (canonR (.elem q attrs kids))

/-- **C02 (print/parse)**: for every admissible namespace table and every tree, parsing what `toXml` writes returns
    the tree with every string filtered by the library's `_handle_unrepresentable`. -/
theorem print_parse (tbl : NsTable) (q : QName) (attrs : List (QName × Str)) (kids : Forest)
    (ht : TableOK tbl) (hcl : NsClean tbl) (hu : TreeOK tbl (.elem q attrs kids)) :
    parseDoc (render tbl (.elem q attrs kids)) = some (canonT (.elem q attrs kids)) :=
  parseDoc_render tbl q attrs kids ht hcl hu

mutual
/-- no string of the tree contains a discouraged code point (U+007F–84, U+0086–9F, plane-final non-characters) -/
def NoDisc : Node → Prop
  | .text s => ∀ c ∈ s, discouraged c = false
  | .cdata s => ∀ c ∈ s, discouraged c = false
  | .elem _ attrs kids => (∀ a ∈ attrs, ∀ c ∈ a.2, discouraged c = false) ∧ NoDiscF kids
def NoDiscF : Forest → Prop
  | .nil => True
  | .cons h t => NoDisc h ∧ NoDiscF t
end

theorem hu_eq_repl (c : Cp) (hc : c < 0x110000) (hd : discouraged c = false) : hu c = repl c := by
  unfold hu repl
  cases hf : filtered c with
  | true =>
    rcases filtered_cases c hf with h | h
    · simp [h]
    · rw [hd] at h; cases h
  | false => simp [unfiltered_isXmlChar c hc hf]

theorem map_hu_eq_repl (s : Str) (hs : StrOK s) (hd : ∀ c ∈ s, discouraged c = false) : s.map hu = s.map repl :=
  List.map_congr_left fun c hc => hu_eq_repl c (hs c hc) (hd c hc)

theorem huAttrsQ_eq_replAttrs (as : List (QName × Str))
    (h : ∀ a ∈ as, StrOK a.2) (hd : ∀ a ∈ as, ∀ c ∈ a.2, discouraged c = false) :
    huAttrsQ as = replAttrs as := by
  fun_induction huAttrsQ as with
  | case1 => rfl
  | case2 q v r ih =>
    obtain ⟨ha, hr⟩ := List.forall_mem_cons.mp h
    obtain ⟨hda, hdr⟩ := List.forall_mem_cons.mp hd
    rw [replAttrs, map_hu_eq_repl v ha hda, ih hr hdr]

theorem canonTF_eq_canonRF {tbl : NsTable} (acc : Str) (f : Forest) (hf : ForestOK tbl f) (hd : NoDiscF f) :
    canonTF acc f = canonRF acc f := by
  fun_induction canonTF acc f with
  | case1 acc => simp [canonRF]
  | case2 acc s t ih | case3 acc s t ih =>
    simp only [canonRF]
    rw [← map_hu_eq_repl s hf.1 hd.1]; exact ih hf.2 hd.2
  | case4 acc q attrs kids t ih1 ih2 =>
    obtain ⟨⟨_, _, hat, hk⟩, ht⟩ := hf
    obtain ⟨⟨hda, hdk⟩, hdt⟩ := hd
    simp only [canonRF]
    rw [huAttrsQ_eq_replAttrs attrs (fun _ => hat.strOK) hda, ih1 hk hdk, ih2 ht hdt]

/-- **C02 (partial: trees without discouraged code points)**: `FullStatement` — the parser returns `canonR` of the
    tree — for every tree none of whose strings contains a discouraged code point.  What is excluded are
    the code points of known finding KF-C02-1: a filtered character is unrepresentable or discouraged (`filtered_cases`). -/
theorem print_parse_partial (tbl : NsTable) (q : QName) (attrs : List (QName × Str)) (kids : Forest)
    (ht : TableOK tbl) (hcl : NsClean tbl) (hu : TreeOK tbl (.elem q attrs kids))
    (hd : NoDisc (.elem q attrs kids)) :
    parseDoc (render tbl (.elem q attrs kids)) = some (canonR (.elem q attrs kids)) := by
  rw [print_parse tbl q attrs kids ht hcl hu]
  obtain ⟨_, _, hat, hk⟩ := hu
  obtain ⟨hda, hdk⟩ := hd
  simp only [canonT, canonR]
  rw [huAttrsQ_eq_replAttrs attrs (fun _ => hat.strOK) hda, canonTF_eq_canonRF [] kids hk hdk]

/-- **known finding KF-C02-1, proved**: U+007F is an XML 1.0 `Char`, yet the library replaces it by U+FFFD
    (pinned by tests.testunicode.test_illegaltext, which expects U+2FFFE → U+FFFD). -/
theorem finding_discouraged : isXmlChar 0x7F = true ∧ hu 0x7F = 0xFFFD ∧ repl 0x7F = 0x7F ∧
    isXmlChar 0x2FFFE = true ∧ hu 0x2FFFE = 0xFFFD := by decide

/-- why `FullStatement` fails without `NoDisc`: for a one-character text node with U+007F what the parser returns
    (`canonT`, by `print_parse`) is not `canonR` -/
theorem full_statement_false_witness :
    canonT (.elem ⟨[], [97]⟩ [] (.cons (.text [0x7F]) .nil)) ≠ canonR (.elem ⟨[], [97]⟩ [] (.cons (.text [0x7F]) .nil)) := by
  intro h
  simp only [canonT, canonR, canonTF, canonRF, flushT, huAttrsQ, replAttrs, List.nil_append, List.map_cons, List.map_nil,
    List.isEmpty_cons, Bool.false_eq_true, if_false, Node.elem.injEq, Forest.cons.injEq, Node.text.injEq,
    List.cons.injEq] at h
  have : hu 0x7F ≠ repl 0x7F := by decide
  exact this h.2.2.1.1

theorem surrogate_hu (c : Nat) (hlo : 0xD800 ≤ c) (hhi : c ≤ 0xDFFF) : hu c = 0xFFFD ∧ repl c = 0xFFFD := by
  have hx : isXmlChar c = false := Bool.eq_false_iff.mpr fun h => isXmlChar_not_surrogate c h ⟨hlo, hhi⟩
  have hf := notXmlChar_filtered c hx (Nat.lt_of_le_of_lt hhi (by decide))
  simp [hu, repl, hf, hx]

/-- **C02 (a high surrogate immediately followed by a low one)**: the filter works code point by code point, so a string
    in which a high surrogate (U+D800..DBFF) is directly followed by a low surrogate (U+DC00..DFFF) - two code points
    of the tree, neither representable in XML 1.0 - is written as TWO U+FFFD, whatever stands before and after; the
    pair is never read as the one supplementary character it would encode in UTF-16 (the length is preserved). -/
theorem surrogate_pair_two_replacements (pre post : Str) (h l : Nat)
    (hh : 0xD800 ≤ h ∧ h ≤ 0xDBFF) (hl : 0xDC00 ≤ l ∧ l ≤ 0xDFFF) :
    handleUnrep (pre ++ h :: l :: post) = handleUnrep pre ++ 0xFFFD :: 0xFFFD :: handleUnrep post ∧
    (pre ++ h :: l :: post).map repl = pre.map repl ++ 0xFFFD :: 0xFFFD :: post.map repl ∧
    (handleUnrep (pre ++ h :: l :: post)).length = (pre ++ h :: l :: post).length := by
  have a := surrogate_hu h hh.1 (by omega)
  have b := surrogate_hu l (by omega) hl.2
  simp [handleUnrep, a.1, a.2, b.1, b.2]

/-- attribute order is free: the parser's attribute list is the tree's, entry by entry (so any permutation of the
    `dict` order permutes the result the same way) -/
theorem attrs_pointwise (as : List (QName × Str)) :
    (huAttrsQ as).map (·.1) = as.map (·.1) ∧ (huAttrsQ as).map (·.2) = as.map (fun a => a.2.map hu) := by
  simp [huAttrsQ_eq_map]

/-- the package parts (`contentxml`, `stylesxml`, `metaxml`, `settingsxml`) are assembled with
    `write_open_tag(0)` … children … `write_close_tag`; with at least one child written this is exactly what
    `toXml(0)` writes for the wrapper element, so `print_parse` covers them -/
theorem part_assembly (tag : Str) (attrs : List (Str × Str)) (h : RNode) (t : RForest) :
    printOpenClose tag attrs (.cons h t) = printNode (.elem tag attrs (.cons h t)) := by
  simp [printOpenClose, printNode]

/-- **C02 for the four package parts**: a part assembled from a wrapper element and at least one child parses back to
    the canonical form of the wrapper with exactly those children (content.xml always has automatic-styles and body,
    styles.xml has styles and automatic-styles, meta.xml and settings.xml have their single section). -/
theorem parts_print_parse (tbl : NsTable) (q : QName) (attrs : List (QName × Str)) (h : Node) (t : Forest)
    (ht : TableOK tbl) (hcl : NsClean tbl) (hu : TreeOK tbl (.elem q attrs (.cons h t))) :
    parseDoc (renderPart tbl q attrs (.cons h t)) = some (canonT (.elem q attrs (.cons h t))) := by
  have : renderPart tbl q attrs (.cons h t) = render tbl (.elem q attrs (.cons h t)) :=
    congrArg (PROLOGUE ++ ·) (part_assembly _ _ (rawOf tbl h) (rawOfF tbl t))
  rw [this]
  exact print_parse tbl q attrs (.cons h t) ht hcl hu

/-- non-vacuity: the hypotheses of `print_parse` are satisfiable — table `u ↦ p`, root `p:a` with an unqualified
    attribute holding every special character, a text node and a CDATA node containing `]]>` and CR -/
example : TableOK [([117], [112])] ∧ NsClean [([117], [112])] ∧
    TreeOK [([117], [112])] (.elem ⟨[117], [97]⟩ [(⟨[], [98]⟩, [34, 39, 38, 60, 62, 9, 10, 13, 1])]
        (.cons (.text [38, 13]) (.cons (.cdata [93, 93, 62, 13]) .nil))) := by
  -- all three predicates are bounded quantifications over the lists of this instance
  simp only [TableOK, NsClean, TreeOK, ForestOK, AttrsQOK, QNameOK, Covered, StrOK, ← Option.isSome_iff_exists]
  decide

end OdfModel.Props.C02
