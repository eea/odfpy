/-
  Property C06: closed facts about the translated schemas, evaluated by the kernel over the regenerated
  `P` terms.  `fuel_sufficient` and `islands_permit_anything` are used by Props/C06.lean; the others
  (`refs_closed`, `no_notAllowed`, `schema_elem_ids_first`, and `ids_below_any` in Kw.lean) stand alone:
  they back remarks of OdfModel/Grammar.lean on why a definition is adequate, and no theorem takes them
  as a premise.
-/
import OdfModel.Grammar
import OdfModel.Generated.GrammarSchema
namespace OdfModel.Props.C06
open OdfModel OdfModel.Grammar OdfModel.Generated OdfModel.Generated.GrammarSchema

/-- the fuel of `mayElems / mayText / mayAttrs / mustAttrs` never runs out on the content of any
    element declaration of the two schemas: the functions compute the denotation, not a cut-off of it -/
theorem fuel_sufficient :
    (schema.elems.all.all fun d => ncOk NCFUEL d.nc && fuelOk schema FUEL d.content) = true := by decide +kernel

mutual
/-- References below `nd`, element occurrences below `ne`, no `notAllowed`: one walk of a pattern where the model's
    `refBound`, `declBound`, `hasNotAllowed` make three — each of them a mutual structural recursion, which is what
    the kernel evaluates slowest, so it is worth doing once. -/
def wf (nd ne : Nat) : P → Bool
  | .ref n => Nat.blt n nd
  | .element i => Nat.blt i ne
  | .notAllowed => false
  | .attribute _ p => wf nd ne p
  | .group l | .interleave l | .choice l => wfL nd ne l
  | .optional p | .zeroOrMore p | .oneOrMore p | .mixed p | .list p => wf nd ne p
  | _ => true
def wfL (nd ne : Nat) : List P → Bool
  | [] => true
  | p :: ps => wf nd ne p && wfL nd ne ps
end

mutual
theorem wf_spec {nd ne : Nat} : ∀ p, wf nd ne p = true → refBound p ≤ nd ∧ declBound p ≤ ne ∧ hasNotAllowed p = false
  | .ref n, h => by simp only [wf, Nat.blt_eq] at h; exact ⟨h, Nat.zero_le _, rfl⟩
  | .element i, h => by simp only [wf, Nat.blt_eq] at h; exact ⟨Nat.zero_le _, h, rfl⟩
  | .notAllowed, h => by simp [wf] at h
  | .group l, h | .interleave l, h | .choice l, h => by
    simpa only [refBound, declBound, hasNotAllowed] using wfL_spec l (by simpa only [wf] using h)
  | .attribute _ p, h | .optional p, h | .zeroOrMore p, h | .oneOrMore p, h | .mixed p, h | .list p, h => by
    simpa only [refBound, declBound, hasNotAllowed] using wf_spec p (by simpa only [wf] using h)
  | .empty, _ | .text, _ | .value _, _ | .data _ _, _ => by simp [refBound, declBound, hasNotAllowed]
theorem wfL_spec {nd ne : Nat} : ∀ l, wfL nd ne l = true → refBoundL l ≤ nd ∧ declBoundL l ≤ ne ∧ hasNotAllowedL l = false
  | [], _ => by simp [refBoundL, declBoundL, hasNotAllowedL]
  | p :: ps, h => by
    simp only [wfL, Bool.and_eq_true] at h
    have h1 := wf_spec p h.1
    have h2 := wfL_spec ps h.2
    simp only [refBoundL, declBoundL, hasNotAllowedL, h1.2.2, h2.2.2, Bool.or_self, Nat.max_le]
    exact ⟨⟨h1.1, h2.1⟩, ⟨h1.2.1, h2.2.1⟩, trivial⟩
end

/-- the one evaluation behind `refs_closed` and `no_notAllowed` -/
theorem schema_wf :
    (schema.defs.all.all (wf nDefs nDecls) && schema.elems.all.all fun d => wf nDefs nDecls d.content) = true := by
  decide +kernel

/-- every `<ref>` points into the define table and every element occurrence into the declaration
    table; both tables have the advertised size and chunking (so `get?` is positional lookup) -/
theorem refs_closed :
    (schema.defs.all.all fun p => decide (refBound p ≤ GrammarSchema.nDefs) && decide (declBound p ≤ GrammarSchema.nDecls)) = true
    ∧ (schema.elems.all.all fun d => decide (refBound d.content ≤ GrammarSchema.nDefs) && decide (declBound d.content ≤ GrammarSchema.nDecls)) = true
    ∧ schema.defs.all.length = GrammarSchema.nDefs
    ∧ schema.elems.all.length = GrammarSchema.nDecls
    ∧ (schema.defs.chunks.dropLast.all fun c => c.length == schema.defs.chunk) = true
    ∧ (schema.elems.chunks.dropLast.all fun c => c.length == schema.elems.chunk) = true := by
  have h := schema_wf
  simp only [Bool.and_eq_true, List.all_eq_true] at h
  -- the bounds from `schema_wf`; the four size and chunking conjuncts by evaluation
  refine ⟨List.all_eq_true.mpr fun p hp => ?_, List.all_eq_true.mpr fun d hd => ?_, by decide +kernel⟩
  · have := wf_spec p (h.1 p hp); simp [this.1, this.2.1]
  · have := wf_spec d.content (h.2 d hd); simp [this.1, this.2.1]

/-- `notAllowed` does not occur (so `mustAttrs` needs no unit for `choice`) -/
theorem no_notAllowed :
    (schema.defs.all.any hasNotAllowed || schema.elems.all.any fun d => hasNotAllowed d.content) = false := by
  have h := schema_wf
  simp only [Bool.and_eq_true, List.all_eq_true] at h
  simp only [Bool.or_eq_false_iff, List.any_eq_false]
  exact ⟨fun p hp => by simp [(wf_spec p (h.1 p hp)).2.2], fun d hd => by simp [(wf_spec d.content (h.2 d hd)).2.2]⟩

/-- every element name the schemas declare has an id below `nSchemaElems` -/
theorem schema_elem_ids_first :
    (schema.elems.all.all fun d => (names d.nc).all fun q => q == ANY || decide (q < GrammarSchema.nSchemaElems)) = true := by
  decide +kernel

/-- the `<anyName/>` declarations (the islands: content of math:math, xforms:model, foreign
    metadata) exist, and each of them permits any child element and character data — so an element
    that no declaration names may, where it may occur at all, contain any element and text -/
theorem islands_permit_anything :
    schema.anyPatterns.isEmpty = false
    ∧ (schema.anyPatterns.all fun p => (mayElems schema FUEL p).contains ANY && mayText schema FUEL p) = true := by
  decide +kernel

end OdfModel.Props.C06
