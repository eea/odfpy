/-
  Property C06, histories: "with grammar checking on, adding a child element succeeds if and only if
  the schema permits it for that element" — *whatever the parent already holds and however it got
  there* (children let through with check_grammar=False, attached with the unchecked DOM calls
  appendChild / insertBefore, text nodes, children that came with a loaded file, removals).

  The single-call theorems of Props/C06.lean speak about a decision function of (tables, parent
  qname, child qname).  The model of OdfModel.GrammarHist keeps the parent's child list through a
  sequence of calls; the theorems here say that the list never enters the decision, and lift
  `children_match` to every reachable state of the parent.
-/
import OdfModel.GrammarHist
import OdfModel.Props.C06
namespace OdfModel.Props.C06
open OdfModel OdfModel.Grammar OdfModel.GrammarApi OdfModel.GrammarData OdfModel.GrammarExceptions
open OdfModel.Generated OdfModel.GrammarHist

theorem step_qname (Tb : Tables) (P : Parent) (op : Op) : (step Tb P op).2.qname = P.qname := by
  cases op with
  | add check c => simp only [step]; split <;> rfl
  | _ => rfl

theorem step_verdict (Tb : Tables) (P : Parent) (op : Op) : (step Tb P op).1 = verdict Tb P.qname op := by
  cases op <;> rfl

theorem run_qname (Tb : Tables) (ops : List Op) (P : Parent) : (run Tb P ops).2.qname = P.qname := by
  induction ops generalizing P with
  | nil => rfl
  | cons op rest ih =>
    simp only [run]
    rw [ih, step_qname]

/-- **C06 (histories, decisions)**: along any history of calls on one parent — checked and unchecked
    addElement, appendChild, insertBefore, unchecked addText, removeChild, in any order, from any
    initial child list (e.g. the one a loaded file brought) — every call has the outcome it has on
    an empty parent of that qname. -/
theorem history_outcomes_stateless (Tb : Tables) (ops : List Op) (P : Parent) :
    (run Tb P ops).1 = ops.map (verdict Tb P.qname) := by
  induction ops generalizing P with
  | nil => rfl
  | cons op rest ih =>
    simp only [run, List.map_cons]
    rw [ih, step_qname, step_verdict]

theorem history_then_checked_add (Tb : Tables) (p : Nat) (kids : List Kid) (ops : List Op) (c : Nat) :
    ((step Tb (run Tb ⟨p, kids⟩ ops).2 (.add true c)).1 = none) ↔ allowsChild Tb p c = true := by
  rw [step_verdict, run_qname]
  show raised (addElement Tb true p c) = none ↔ (addElement Tb true p c).isOk = true
  generalize addElement Tb true p c = r
  cases r <;> simp [raised, Except.isOk, Except.toBool]

/-- **C06 (histories, children)**: for every parent element of the tables, in every state a history
    of calls can bring it to, a checked addElement of a child is accepted iff the shipped schema
    permits that child there (or the pair is a documented exception / a listed finding). -/
theorem history_children_match (p : Nat) (hp : p < GrammarTables.nElems) (kids : List Kid) (ops : List Op) (c : Nat) :
    (((step T (run T ⟨p, kids⟩ ops).2 (.add true c)).1 = none) ↔ schema.permitsChild p c = true)
    ∨ inExceptions .children (elemName p) (elemName c) = true
    ∨ inKnownFindings .children (elemName p) (elemName c) = true :=
  (children_match p hp c).imp_left fun h => by rw [history_then_checked_add, h]

/-- the element children of a child list that the tables do not allow under `p` -/
def illegalKids (Tb : Tables) (p : Nat) (kids : List Kid) : List Kid :=
  kids.filter fun k => match k with
    | .elem c => !(allowsChild Tb p c)
    | .text => false

def checkedOnly : Op → Bool
  | .add true _ => true
  | .text => true
  | _ => false

theorem illegalKids_append (Tb : Tables) (p : Nat) (a b : List Kid) :
    illegalKids Tb p (a ++ b) = illegalKids Tb p a ++ illegalKids Tb p b := by
  simp [illegalKids]

theorem step_checked (Tb : Tables) (P : Parent) (op : Op) (h : checkedOnly op = true) :
    illegalKids Tb P.qname (step Tb P op).2.kids = illegalKids Tb P.qname P.kids := by
  cases op with
  | add check c =>
    cases check with
    | false => cases h
    | true =>
      simp only [step]
      cases ha : (addElement Tb true P.qname c).isOk
      · rfl
      · simp [illegalKids, allowsChild, ha]
  | text => simp [step, illegalKids]
  | _ => cases h

/-- **C06 (histories, the parent's content)**: a history that consists of checked addElement calls
    (and text) adds no element child that the tables refuse: the refused children found in the
    parent afterwards are exactly those that were there before — one unchecked child does not open
    the door for more of its kind. -/
theorem checked_history_adds_no_illegal (Tb : Tables) (ops : List Op) (P : Parent)
    (h : ops.all checkedOnly = true) :
    illegalKids Tb P.qname (run Tb P ops).2.kids = illegalKids Tb P.qname P.kids := by
  induction ops generalizing P with
  | nil => rfl
  | cons op rest ih =>
    simp only [List.all_cons, Bool.and_eq_true] at h
    rw [← step_checked Tb P op h.1, ← step_qname Tb P op]
    exact ih _ h.2

/-- such a history is in the domain and the statements are not vacuous: `text:p` forced into
    `table:table` with check_grammar=False, then a checked `text:p` (refused), a checked
    `table:table-row` (accepted), `text:p` again (refused) -/
example :
    let t := GrammarNames.elemName.idxOf (GrammarNamesCodec.encode "table:table")
    let p := GrammarNames.elemName.idxOf (GrammarNamesCodec.encode "text:p")
    let r := GrammarNames.elemName.idxOf (GrammarNamesCodec.encode "table:table-row")
    (run T ⟨t, []⟩ [.add false p, .add true p, .add true r, .add true p, .append p, .add true p])
      = ([none, some .IllegalChild, none, some .IllegalChild, none, some .IllegalChild],
         ⟨t, [.elem p, .elem r, .elem p]⟩) := by
  decide +kernel

end OdfModel.Props.C06
