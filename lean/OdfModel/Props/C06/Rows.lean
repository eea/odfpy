/-
  Property C06: the row check of Props/C06/Defs.lean evaluated by the kernel on the regenerated
  tables, schema and factory list — every row, in chunks of 32 element ids, as many as the table needs.
  Two theorems, so that neither evaluation needs much more than 2 GB (and Lean checks them side by side).
-/
import OdfModel.Props.C06.Defs
namespace OdfModel.Props.C06
open OdfModel OdfModel.GrammarData OdfModel.Generated

/-- chunks of 32 ids that cover the table, whatever size the translator finds it to have -/
def nChunks : Nat := (GrammarTables.nElems + 31) / 32

theorem table_ok_lo :
    chunksOk T schema GrammarFactories.factoryQnames GrammarTables.nElems 32 0 (nChunks / 2) = true := by
  decide +kernel

theorem table_ok_hi :
    chunksOk T schema GrammarFactories.factoryQnames GrammarTables.nElems 32 (nChunks / 2) (nChunks - nChunks / 2) = true := by
  decide +kernel

/-- **C06 (every row)**: for every element id of the tables, each API decision of the row (children,
    text, attributes by keyword, required attributes, factory) equals the schema's or is listed in
    Exceptions / KnownFindings. -/
theorem all_rows (e : Nat) (he : e < GrammarTables.nElems) :
    rowOk T e (view T schema GrammarFactories.factoryQnames e) = true := by
  have h := chunksOk_append table_ok_lo table_ok_hi
  rw [show nChunks / 2 + (nChunks - nChunks / 2) = nChunks by omega] at h
  exact chunksOk_row (by decide) (by unfold nChunks; omega) h e he

end OdfModel.Props.C06
