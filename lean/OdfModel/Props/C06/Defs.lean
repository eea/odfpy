/-
  Property C06: the row check that the kernel evaluates, and the lemmas that lift a successful
  check of a row to the ∀-statements about the API decisions of that row.

  For element `e`, `view T S F e` collects what the API model (OdfModel.GrammarApi, over the tables
  of odf/grammar.py) and the schema (OdfModel.Grammar, over the `P` terms of the shipped .rng files)
  say about `e`; `rowOk` compares the two sides, and every difference must be excused by
  OdfModel.GrammarExceptions.  Everything here is about arbitrary tables `T` (a variable, not
  `GrammarData.T`), schema `S` and factory list `F` — except that `rowOk` looks the excuses up under
  the generated display names; Props/C06/Rows.lean evaluates the check on the regenerated tables.
-/
import OdfModel.GrammarData
import OdfModel.GrammarExceptions
import OdfModel.BitSet
namespace OdfModel.Props.C06
open OdfModel OdfModel.Grammar OdfModel.GrammarApi OdfModel.GrammarData OdfModel.GrammarExceptions
open OdfModel.Generated

/-! A wildcard row `STAR` covers every item of its element; `children_match` needs it for the rows
that differ from the schema as a whole. -/

theorem inRows_star (rows : List Row) (k : Kind) (e x : Nat) (h : inRows rows k e STAR = true) :
    inRows rows k e x = true := by
  simp only [inRows, List.any_eq_true, Row.covers, Bool.and_eq_true, Bool.or_eq_true, Bool.or_self] at h ⊢
  obtain ⟨r, hr, hc, hs⟩ := h
  exact ⟨r, hr, hc, Or.inr hs⟩

theorem excused_star {k : Kind} {e x : Nat} (h : excused k e STAR = true) : excused k e x = true := by
  simp only [excused, inExceptions, inKnownFindings, Bool.or_eq_true] at h ⊢
  exact h.imp (Or.imp_right (inRows_star _ k e x)) (inRows_star _ k e x)

theorem excused_split {k : Kind} {e x : Nat} (h : excused k e x = true) :
    inExceptions k e x = true ∨ inKnownFindings k e x = true := by
  simpa [excused] using h

/-- the two lists have the same members, up to excused ones -/
def agree (ex : Nat → Bool) (a b : List Nat) : Bool :=
  let inA := bitsOf a
  let inB := bitsOf b
  (a.all fun x => inB.testBit x || ex x) && (b.all fun x => inA.testBit x || ex x)

theorem agree_lift {ex : Nat → Bool} {a b : List Nat} (h : agree ex a b = true) (x : Nat) :
    a.contains x = b.contains x ∨ ex x = true := by
  simp only [agree, Bool.and_eq_true, List.all_eq_true, testBit_bitsOf, Bool.or_eq_true] at h
  by_cases hx : ex x = true
  · exact .inr hx
  · refine .inl (Bool.eq_iff_iff.mpr ⟨fun ha => ?_, fun hb => ?_⟩)
    · exact (h.1 x (List.contains_iff_mem.mp ha)).resolve_right hx
    · exact (h.2 x (List.contains_iff_mem.mp hb)).resolve_right hx

theorem allowsChild_eq (T : Tables) (p c : Nat) :
    allowsChild T p c = (match allowedChildrenOf T p with | none => true | some l => l.contains c) := by
  unfold allowsChild addElement
  cases allowedChildrenOf T p with
  | none => rfl
  | some l => simp only []; cases l.contains c <;> rfl

theorem allowsText_eq (T : Tables) (e : Nat) : allowsText' T e = allowsTextOf T e := by
  unfold allowsText' addText
  cases allowsTextOf T e <;> rfl

theorem firstWithKw_eq_find (T : Tables) (kw : Nat) (l : List Nat) :
    firstWithKw T kw l = l.find? fun a => kwOf T a == kw := by
  induction l with
  | nil => rfl
  | cons a rest ih => simp only [firstWithKw, List.find?_cons, ih]; cases kwOf T a == kw <;> rfl

theorem firstWithKw_some {T : Tables} {kw : Nat} {l : List Nat} {b : Nat} (h : firstWithKw T kw l = some b) :
    b ∈ l ∧ kwOf T b = kw := by
  rw [firstWithKw_eq_find] at h
  exact ⟨List.mem_of_find?_eq_some h, by simpa using List.find?_some h⟩

theorem firstWithKw_isSome {T : Tables} {kw : Nat} {l : List Nat} (h : l.any (fun b => kwOf T b == kw) = true) :
    ∃ b, firstWithKw T kw l = some b := by
  rw [firstWithKw_eq_find]
  exact Option.isSome_iff_exists.mp (List.find?_isSome.mpr (List.any_eq_true.mp h))

theorem setAttribute_ok {T : Tables} {e kw b : Nat} (h : setAttribute T true e kw = .ok b) :
    ∃ l, allowedAttrsOf T e = some l ∧ firstWithKw T kw l = some b := by
  unfold setAttribute at h
  split at h
  · cases h
  · next l hl =>
    split at h
    · next a ha => exact ⟨l, hl, Except.ok.inj h ▸ ha⟩
    · cases h

/-- what the API side (tables and factory list: first five fields) and the schema (last five) say
    about one element -/
structure RowView where
  kids : Option (List Nat)
  text : Bool
  attrs : Option (List Nat)
  required : List Nat
  factory : Bool
  declared : Bool
  mayElems : List Nat
  mayText : Bool
  mayAttrs : List Nat
  mustAttrs : List Nat

def view (T : Tables) (S : Schema) (F : List Nat) (e : Nat) : RowView :=
  { kids := allowedChildrenOf T e, text := allowsTextOf T e, attrs := allowedAttrsOf T e
    required := requiredOf T e, factory := F.contains e, declared := S.isElem e
    mayElems := S.mayElems e, mayText := S.mayText e, mayAttrs := S.mayAttrs e, mustAttrs := S.mustAttrs e }

/-- `ex c`: the child `c` is excused; `exAll`: the whole row is -/
def childrenOk (ex : Nat → Bool) (exAll : Bool) (r : RowView) : Bool :=
  match r.kids with
  | none => r.mayElems.contains ANY || exAll
  | some l => if r.mayElems.contains ANY then exAll else agree ex l r.mayElems

theorem children_lift (ex : Nat → Bool) (exAll : Bool) (hall : exAll = true → ∀ c, ex c = true)
    {T : Tables} {S : Schema} {F : List Nat} {p : Nat} (h : childrenOk ex exAll (view T S F p) = true) (c : Nat) :
    allowsChild T p c = S.permitsChild p c ∨ ex c = true := by
  rw [allowsChild_eq]
  simp only [childrenOk, view, Schema.permitsChild] at h ⊢
  -- no row against no `<anyName/>`, or a row against `<anyName/>`: the two sides differ on almost every
  -- child, and only the excuse for the whole row covers that
  cases hl : allowedChildrenOf T p with
  | none =>
    cases hany : (S.mayElems p).contains ANY with
    | false => exact .inr (hall (by simpa only [hl, hany, Bool.false_or] using h) c)
    | true => exact .inl rfl
  | some l =>
    simp only [hl] at h
    cases hany : (S.mayElems p).contains ANY with
    | false => exact agree_lift (by simpa only [hany, Bool.false_eq_true, if_false] using h) c
    | true => exact .inr (hall (by simpa only [hany, if_true] using h) c)

/-- Attributes by keyword.  First conjunct: a listed attribute that its own keyword resolves to is
    permitted by the schema; second: the keyword of every attribute the schema permits is the keyword
    of a listed one.  The cheap tests come first, so that keywords are looked up only for attributes
    that one side has and the other has not (and `bitsOf` is never asked about `ANY`). -/
def attrsOk (T : Tables) (ex : Nat → Bool) (r : RowView) : Bool :=
  match r.attrs with
  | none => r.mayAttrs.all ex
  | some l =>
    let inS := bitsOf r.mayAttrs
    let inL := bitsOf l
    (l.all fun b => r.mayAttrs.contains ANY || inS.testBit b || ex b || firstWithKw T (kwOf T b) l != some b)
    && (r.mayAttrs.all fun a => (a != ANY && (inL.testBit a || l.any fun b => kwOf T b == kwOf T a)) || ex a)

theorem attrs_sound_lift {ex : Nat → Bool} {T : Tables} {S : Schema} {F : List Nat} {e : Nat}
    (h : attrsOk T ex (view T S F e) = true) {k b : Nat} (hs : setAttribute T true e k = .ok b) :
    S.permitsAttr e b = true ∨ ex b = true := by
  obtain ⟨l, hl, hf⟩ := setAttribute_ok hs
  have ⟨hmem, hkw⟩ := firstWithKw_some hf
  simp only [attrsOk, view, hl, Bool.and_eq_true, List.all_eq_true, Bool.or_eq_true, testBit_bitsOf] at h
  rcases h.1 b hmem with ((h1 | h1) | h1) | h1
  · left; simp only [Schema.permitsAttr, h1, Bool.true_or]
  · left; simp only [Schema.permitsAttr, h1, Bool.or_true]
  · right; exact h1
  · rw [hkw, hf] at h1; simp at h1

theorem attrs_complete_lift {ex : Nat → Bool} {T : Tables} {S : Schema} {F : List Nat} {e : Nat}
    (h : attrsOk T ex (view T S F e) = true) {a : Nat} (ha : (S.mayAttrs e).contains a = true) :
    (a ≠ ANY ∧ (setAttribute T true e (kwOf T a)).isOk = true) ∨ ex a = true := by
  have ha' : a ∈ S.mayAttrs e := List.contains_iff_mem.mp ha
  simp only [attrsOk, view] at h
  cases hl : allowedAttrsOf T e with
  | none => simp only [hl, List.all_eq_true] at h; exact .inr (h a ha')
  | some l =>
    simp only [hl, Bool.and_eq_true, List.all_eq_true, Bool.or_eq_true, testBit_bitsOf] at h
    refine (h.2 a ha').imp_left fun ⟨h1, h2⟩ => ?_
    have hany : l.any (fun b => kwOf T b == kwOf T a) = true :=
      h2.elim (fun h2 => List.any_eq_true.mpr ⟨a, List.contains_iff_mem.mp h2, beq_self_eq_true _⟩) id
    obtain ⟨b, hb⟩ := firstWithKw_isSome hany
    exact ⟨by simpa using h1, by simp [setAttribute, hl, hb, Except.isOk, Except.toBool]⟩

/-- the whole row of element `e`; the excuses are looked up under the display names -/
def rowOk (T : Tables) (e : Nat) (r : RowView) : Bool :=
  childrenOk (fun c => excused .children (elemName e) (elemName c)) (excused .children (elemName e) STAR) r
  && (r.text == r.mayText || excused .text (elemName e) NOITEM)
  && attrsOk T (fun a => excused .attrs (elemName e) (attrName a)) r
  && agree (fun a => excused .required (elemName e) (attrName a)) r.required r.mustAttrs
  && (!r.declared || r.factory || excused .factory (elemName e) NOITEM)

/-- the five checks of `rowOk`, by name -/
structure RowChecks (T : Tables) (e : Nat) (r : RowView) : Prop where
  kids : childrenOk (fun c => excused .children (elemName e) (elemName c)) (excused .children (elemName e) STAR) r = true
  text : r.text = r.mayText ∨ excused .text (elemName e) NOITEM = true
  attrs : attrsOk T (fun a => excused .attrs (elemName e) (attrName a)) r = true
  required : agree (fun a => excused .required (elemName e) (attrName a)) r.required r.mustAttrs = true
  factory : r.declared = true → r.factory = true ∨ excused .factory (elemName e) NOITEM = true

theorem rowOk_spec {T : Tables} {e : Nat} {r : RowView} (h : rowOk T e r = true) : RowChecks T e r := by
  simp only [rowOk, Bool.and_eq_true, Bool.or_eq_true, beq_iff_eq, Bool.not_eq_true'] at h
  obtain ⟨⟨⟨⟨hkids, htext⟩, hattrs⟩, hreq⟩, hfac⟩ := h
  exact ⟨hkids, htext, hattrs, hreq, fun hd => hfac.imp_left (Or.resolve_left · (by simp [hd]))⟩

/-! Ids are checked in chunks of `w`: chunk `c` holds the ids `k` with `k / w = c`.  A lookup in an
association list of the tables, and the search for the declarations of an element, walk the whole
list; a chunk therefore first keeps of each list what concerns its own ids (one walk per chunk), and
its rows are then computed from these short lists.  `row_narrow`: they are the rows of `view`. -/

def inChunk (w c k : Nat) : Bool := Nat.beq (Nat.div k w) c

def rowsOf {α : Type} (l : List (Nat × α)) (w c : Nat) : List (Nat × α) :=
  l.filter fun r => inChunk w c r.1

theorem lookup_rowsOf {α : Type} (l : List (Nat × α)) (w c x : Nat) (h : inChunk w c x = true) :
    lookup (rowsOf l w c) x = lookup l x := by
  induction l with
  | nil => rfl
  | cons r rest ih =>
    obtain ⟨k, v⟩ := r
    simp only [rowsOf, List.filter_cons] at ih ⊢
    by_cases hk : k = x
    · subst hk; simp [h, lookup]
    · -- another key: whether the filter keeps the pair or not, the lookup passes it by
      split <;> (simp only [lookup, beq_iff_eq, hk, if_false]; exact ih)

def narrowed (T : Tables) (w c : Nat) : Tables :=
  { T with allowedChildren := rowsOf T.allowedChildren w c
           requiredAttributes := rowsOf T.requiredAttributes w c
           allowedAttributes := rowsOf T.allowedAttributes w c }

def declsNaming (ds : List Decl) (w c : Nat) : List Decl :=
  ds.filter fun d => (names d.nc).any (inChunk w c)

theorem patternsIn_eq (ds : List Decl) (e : Nat) :
    patternsIn ds e = (ds.filter fun d => ncHas NCFUEL d.nc e).map (·.content) := by
  induction ds with
  | nil => rfl
  | cons d ds ih => simp only [patternsIn, List.filter_cons, ih]; split <;> rfl

theorem patternsInChunks_eq (cs : List (List Decl)) (e : Nat) : patternsInChunks cs e = patternsIn (cs.flatMap id) e := by
  induction cs with
  | nil => rfl
  | cons c cs ih => simp only [patternsInChunks, List.flatMap_cons, id, patternsIn_eq, List.filter_append, List.map_append, ih]

theorem ncHas_mem (f : Nat) (nc : NC) (e : Nat) (h : ncHas f nc e = true) : e ∈ ncNames f nc := by
  fun_induction ncHas f nc e with
  | case1 => cases h
  | case2 f q e => simp [ncNames, Nat.eq_of_beq_eq_true h]
  | case3 => cases h
  | case4 f l e ih =>
    obtain ⟨n, hn, hh⟩ := List.any_eq_true.mp h
    exact List.mem_flatMap.mpr ⟨n, hn, ih n hh⟩

theorem patternsIn_declsNaming (S : Schema) (w c e : Nat) (h : inChunk w c e = true) :
    patternsIn (declsNaming S.elems.all w c) e = S.namedPatterns e := by
  rw [Schema.namedPatterns, patternsInChunks_eq, patternsIn_eq, patternsIn_eq, declsNaming, List.filter_filter]
  congr 1
  refine List.filter_congr fun d _ => ?_
  cases hd : ncHas NCFUEL d.nc e
  · rfl
  · exact List.any_eq_true.mpr ⟨e, ncHas_mem NCFUEL d.nc e hd, h⟩

/-- the row of `e` from narrowed tables `T'`, a narrowed declaration list `ds`, and the lists
    `allows_text` and of factory qnames as bit sets -/
def rowFrom (T' : Tables) (S : Schema) (ds : List Decl) (textBits factoryBits : Nat) (e : Nat) : RowView :=
  let named := patternsIn ds e
  let pats := if named.isEmpty then S.anyPatterns else named
  { kids := allowedChildrenOf T' e
    text := textBits.testBit e || (lookup T'.allowedChildren e).isNone
    attrs := allowedAttrsOf T' e
    required := requiredOf T' e
    factory := factoryBits.testBit e
    declared := !named.isEmpty
    mayElems := pats.flatMap (mayElems S FUEL)
    mayText := pats.any (mayText S FUEL)
    mayAttrs := pats.flatMap (mayAttrs S FUEL)
    mustAttrs := interAll (pats.map (mustAttrs S FUEL)) }

theorem row_narrow (T : Tables) (S : Schema) (F : List Nat) (w c e : Nat) (h : inChunk w c e = true) :
    rowFrom (narrowed T w c) S (declsNaming S.elems.all w c) (bitsOf T.allowsText) (bitsOf F) e = view T S F e := by
  simp only [rowFrom, narrowed, view, allowedChildrenOf, allowedAttrsOf, requiredOf, allowsTextOf,
    lookup_rowsOf _ w c e h, patternsIn_declsNaming S w c e h, testBit_bitsOf]
  rfl

/-- every id of chunk `c` that is below `n` passes the row check -/
def chunkOk (T : Tables) (S : Schema) (F : List Nat) (n w c : Nat) : Bool :=
  let T' := narrowed T w c
  let ds := declsNaming S.elems.all w c
  let textBits := bitsOf T.allowsText
  let factoryBits := bitsOf F
  (List.range' (c * w) w).all fun e => Nat.ble n e || rowOk T e (rowFrom T' S ds textBits factoryBits e)

/-- the chunks `lo, …, lo + k - 1` -/
def chunksOk (T : Tables) (S : Schema) (F : List Nat) (n w lo k : Nat) : Bool :=
  (List.range' lo k).all (chunkOk T S F n w)

theorem chunksOk_append {T : Tables} {S : Schema} {F : List Nat} {n w lo j k : Nat}
    (h1 : chunksOk T S F n w lo j = true) (h2 : chunksOk T S F n w (lo + j) k = true) :
    chunksOk T S F n w lo (j + k) = true := by
  simp only [chunksOk] at h1 h2 ⊢
  rw [← List.range'_append_1, List.all_append, h1, h2]; rfl

theorem chunksOk_row {T : Tables} {S : Schema} {F : List Nat} {n w k : Nat} (hw : 0 < w) (hk : n ≤ k * w)
    (h : chunksOk T S F n w 0 k = true) (e : Nat) (he : e < n) : rowOk T e (view T S F e) = true := by
  simp only [chunksOk, List.all_eq_true, List.mem_range'_1] at h
  have hc : e / w < k := (Nat.div_lt_iff_lt_mul hw).mpr (Nat.lt_of_lt_of_le he hk)
  have := h (e / w) ⟨Nat.zero_le _, by omega⟩
  simp only [chunkOk, List.all_eq_true, List.mem_range'_1, Bool.or_eq_true, Nat.ble_eq] at this
  rcases this e ⟨Nat.div_mul_le_self e w, Nat.lt_div_mul_add hw⟩ with h1 | h1
  · omega
  · rwa [row_narrow T S F w (e / w) e (Nat.beq_refl _)] at h1

end OdfModel.Props.C06
