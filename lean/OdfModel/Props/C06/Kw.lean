/-
  Property C06: the keyword column of the generated tables is faithful to
  `a[1].lower().replace('-','')` (element.py).  `attrKw[a]` is the numeral of the keyword string
  of attribute `a`, so two attributes have the same keyword in the model exactly when the Python
  expression gives the same string for their local names, and the API model — which compares
  these numerals — resolves a keyword like the Python code, which compares strings.
-/
import OdfModel.GrammarData
namespace OdfModel.Props.C06
open OdfModel OdfModel.GrammarApi OdfModel.GrammarData OdfModel.GrammarNamesCodec OdfModel.Generated

/-- interned ids never collide with the wildcard id of the schema semantics -/
theorem ids_below_any : GrammarTables.nElems < Grammar.ANY ∧ GrammarTables.nAttrs < Grammar.ANY := by decide +kernel

/-- the keyword string of an attribute display name `prefix:local` (bytes), by the model of the
    Python expression -/
def kwStringOf (name : Nat) : Str := kwChars (localPart (bytes name))

/-- the keyword string of attribute id `a` -/
def kwString (a : Nat) : Str := kwStringOf (attrName a)

/-- every byte is a base-256 digit other than 0 -/
def isDigits (l : List Nat) : Bool := l.all fun c => Nat.blt 0 c && Nat.blt c 256

/-- numerals with the same nonzero digits, least significant first, have the same digits -/
theorem foldr_digits_inj {a b : List Nat} (ha : isDigits a = true) (hb : isDigits b = true)
    (h : a.foldr (fun d acc => acc * 256 + d) 0 = b.foldr (fun d acc => acc * 256 + d) 0) : a = b := by
  induction a generalizing b with
  | nil =>
    cases b with
    | nil => rfl
    | cons d ds => simp [isDigits] at hb h; omega
  | cons d ds ih =>
    cases b with
    | nil => simp [isDigits] at ha h; omega
    | cons d' ds' =>
      simp only [isDigits, List.all_cons, Bool.and_eq_true, Nat.blt_eq] at ha hb
      simp only [List.foldr_cons] at h
      have : d = d' ∧ ds.foldr (fun d acc => acc * 256 + d) 0 = ds'.foldr (fun d acc => acc * 256 + d) 0 := by omega
      rw [this.1, ih ha.2 hb.2 this.2]

theorem ofBytes_inj {a b : List Nat} (ha : isDigits a = true) (hb : isDigits b = true)
    (h : ofBytes a = ofBytes b) : a = b := by
  -- `ofBytes` reads the most significant byte first: compare from the other end
  have hr : ∀ l : List Nat, ofBytes l = l.reverse.foldr (fun d acc => acc * 256 + d) 0 := fun l => by
    rw [List.foldr_reverse]; rfl
  have hd : ∀ l : List Nat, isDigits l.reverse = isDigits l := fun l => by simp [isDigits]
  rw [hr, hr] at h
  exact List.reverse_inj.mp (foldr_digits_inj ((hd a).trans ha) ((hd b).trans hb) h)

/-! ### the three string functions, spelt for the kernel

`bytes`, `localPart` and `kwChars` decide their comparisons through `DecidableEq` and
`Decidable (_ ∧ _)` instances, which costs the kernel several times the work of the comparison
itself — for each of the ≈ 35 000 bytes of the name column.  The copies below compare with
`Nat.beq` / `Nat.ble`; each is proved to give what the original gives, and `kwRow` evaluates the copies.
The copy of `bytes` makes the ASCII test on the way, `numeralFrom` the test for zero bytes. -/

/-- `bytesAux` for an ASCII name: `none` as soon as a byte above 127 turns up -/
def asciiBytes : Nat → Nat → List Nat → Option (List Nat)
  | 0, _, acc => some acc
  | f+1, n, acc => match Nat.beq n 0 with
    | true => some acc
    | false => match Nat.blt (Nat.mod n 256) 128 with
      | true => asciiBytes f (Nat.div n 256) (Nat.mod n 256 :: acc)
      | false => none

theorem asciiBytes_spec (f n : Nat) (acc bs : List Nat) (h : asciiBytes f n acc = some bs)
    (ha : acc.all (fun c => Nat.blt c 128) = true) :
    bs = bytesAux f n acc ∧ bs.all (fun c => Nat.blt c 128) = true := by
  fun_induction asciiBytes f n acc with
  | case1 n acc => cases h; exact ⟨rfl, ha⟩
  | case2 f n acc hn =>
    cases h
    simp [bytesAux, Nat.eq_of_beq_eq_true hn, ha]
  | case3 f n acc hn hb ih =>
    simp only [bytesAux, beq_iff_eq, Nat.ne_of_beq_eq_false hn, if_false]
    exact ih h (by simp only [List.all_cons, hb, ha]; rfl)
  | case4 => cases h

def kwCharsK : Str → Str
  | [] => []
  | c :: cs => match Nat.beq c 45 with
    | true => kwCharsK cs
    | false => (match Nat.ble 65 c && Nat.ble c 90 with | true => Nat.add c 32 | false => c) :: kwCharsK cs

theorem kwCharsK_eq (l : Str) : kwCharsK l = kwChars l := by
  fun_induction kwCharsK l with
  | case1 => rfl
  | case2 c cs h ih => simp [kwChars, Nat.eq_of_beq_eq_true h, ih]
  | case3 c cs h ih =>
    have hb : (Nat.ble 65 c && Nat.ble c 90) = decide (65 ≤ c ∧ c ≤ 90) := by
      rw [Bool.eq_iff_iff]; simp [Nat.ble_eq]
    have : c ≠ 45 := Nat.ne_of_beq_eq_false h
    by_cases h2 : 65 ≤ c ∧ c ≤ 90 <;> simp [kwChars, this, h2, hb, ih] <;> rfl

/-- what follows the first `x` -/
def afterK (x : Nat) : List Nat → Option (List Nat)
  | [] => none
  | c :: cs => match Nat.beq c x with | true => some cs | false => afterK x cs

theorem afterK_eq (x : Nat) (l d : List Nat) :
    (afterK x l).getD d = (match l.dropWhile (· != x) with | [] => d | _ :: rest => rest) := by
  fun_induction afterK x l with
  | case1 => rfl
  | case2 c cs h => simp [Nat.eq_of_beq_eq_true h]
  | case3 c cs h ih => simp [Nat.ne_of_beq_eq_false h, ih]

def localPartK (l : List Nat) : List Nat :=
  match l with
  | 123 :: _ => (afterK 125 l).getD l
  | _ => (afterK 58 l).getD l

theorem localPartK_eq (l : List Nat) : localPartK l = localPart l := by
  unfold localPartK localPart
  split <;> simp only [afterK_eq] <;> rfl

/-- the numeral of a string without zero byte, continuing the numeral `a` -/
def numeralFrom : Nat → List Nat → Option Nat
  | a, [] => some a
  | a, c :: cs => match Nat.blt 0 c && Nat.blt c 256 with
    | true => numeralFrom (Nat.add (Nat.mul a 256) c) cs
    | false => none

theorem numeralFrom_spec (l : List Nat) (a k : Nat) (h : numeralFrom a l = some k) :
    isDigits l = true ∧ l.foldl (fun acc b => acc * 256 + b) a = k := by
  fun_induction numeralFrom a l with
  | case1 a => simpa [isDigits] using h
  | case2 a c cs hc ih =>
    simp only [isDigits, List.all_cons, hc, Bool.true_and, List.foldl_cons]
    exact ih h
  | case3 => cases h

/-- per attribute: the name is ASCII (what `kwChars` models of `str.lower`), its keyword string has
    no zero byte, and the keyword entry is the numeral of that string -/
def kwRow (name kw : Nat) : Bool :=
  match asciiBytes 256 name [] with
  | some bs => (match numeralFrom 0 (kwCharsK (localPartK bs)) with | some k => Nat.beq k kw | none => false)
  | none => false

theorem kwRow_spec {name kw : Nat} (h : kwRow name kw = true) :
    (bytes name).all (fun c => Nat.blt c 128) = true ∧ isDigits (kwStringOf name) = true ∧ ofBytes (kwStringOf name) = kw := by
  unfold kwRow at h
  split at h
  · next bs hbs =>
    obtain ⟨rfl, hascii⟩ := asciiBytes_spec 256 name [] bs hbs rfl
    split at h
    · next k hk =>
      obtain ⟨hd, hk⟩ := numeralFrom_spec _ 0 k (by simpa only [localPartK_eq, kwCharsK_eq] using hk)
      exact ⟨hascii, hd, hk.trans (Nat.eq_of_beq_eq_true h)⟩
    · cases h
  · cases h

def kwRows (ns ks : List Nat) : Bool := ns.length == ks.length && (ns.zip ks).all fun r => kwRow r.1 r.2

theorem kw_table_ok : kwRows GrammarNames.attrName GrammarTables.attrKw = true := by decide +kernel

theorem kwRows_get {ns ks : List Nat} (h : kwRows ns ks = true) (a : Nat) (ha : a < ns.length) :
    kwRow (ns[a]?.getD 0) (ks[a]?.getD 0) = true := by
  simp only [kwRows, Bool.and_eq_true, beq_iff_eq, List.all_eq_true] at h
  have hk : a < ks.length := h.1 ▸ ha
  have hz : a < (ns.zip ks).length := by simp [List.length_zip]; omega
  simpa [List.getElem_zip, ha, hk] using h.2 _ (List.getElem_mem hz)

theorem kwRows_faithful {ns ks : List Nat} (h : kwRows ns ks = true) (a b : Nat) (ha : a < ns.length) (hb : b < ns.length) :
    ks[a]?.getD 0 = ks[b]?.getD 0 ↔ kwStringOf (ns[a]?.getD 0) = kwStringOf (ns[b]?.getD 0) := by
  obtain ⟨-, da, ea⟩ := kwRow_spec (kwRows_get h a ha)
  obtain ⟨-, db, eb⟩ := kwRow_spec (kwRows_get h b hb)
  rw [← ea, ← eb]
  exact ⟨ofBytes_inj da db, congrArg ofBytes⟩

/-- **C06 (keywords)**: attributes `a`, `b` of the tables have the same keyword in the model iff the
    Python keyword expression gives the same string for their local names -/
theorem kw_ids_faithful (a b : Nat) (ha : a < GrammarNames.attrName.length) (hb : b < GrammarNames.attrName.length) :
    kwOf T a = kwOf T b ↔ kwString a = kwString b :=
  kwRows_faithful kw_table_ok a b ha hb

end OdfModel.Props.C06
