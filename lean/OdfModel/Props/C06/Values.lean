/-
  Property C06, the value and the text as arguments: "adding text or CDATA, or setting an attribute
  by keyword succeeds if and only if the schema permits it for that element" speaks of the element
  (and the keyword) only.  The theorems here say that in the model of OdfModel.GrammarValues the
  string / the value never enters the decision: the outcome is the one of the single-call model
  (OdfModel.GrammarApi.addText / addCDATA / setAttribute, which Props/C06.lean compares with the
  schema row by row), for the empty string, white space, NO-BREAK SPACE, None, 0 … alike; and that
  accepted text is kept as it was given.
-/
import OdfModel.GrammarValues
namespace OdfModel.Props.C06
open OdfModel OdfModel.GrammarApi OdfModel.GrammarValues

theorem addTextS_eq (T : Tables) (check : Bool) (e : Nat) (s : Str) :
    addTextS T check e s = (addText T check e).map fun _ => if s != [] then [s] else [] := by
  unfold addTextS addText
  split <;> split <;> rfl

theorem addCDATAS_eq (T : Tables) (check : Bool) (e : Nat) (s : Str) :
    addCDATAS T check e s = (addCDATA T check e).map fun _ => [s] := by
  unfold addCDATAS addCDATA addText
  split <;> rfl

/-- **C06 (the text does not enter the decision)** addText with the string `s` is refused exactly when
    the single-call model refuses text in that element - whatever `s` is -/
theorem addTextS_decision (T : Tables) (check : Bool) (e : Nat) (s : Str) :
    (addTextS T check e s).toBool = (addText T check e).toBool := by
  rw [addTextS_eq]; cases addText T check e <;> rfl

/-- a refusal is IllegalText, for every string -/
theorem addTextS_refusal (T : Tables) (check : Bool) (e : Nat) (s : Str) (x : Err)
    (h : addTextS T check e s = .error x) : x = .IllegalText ∧ addText T check e = .error .IllegalText := by
  rw [addTextS_eq] at h
  -- `addText` has one error, and `Except.map` keeps it
  unfold addText at h ⊢
  split
  · next hc => rw [if_pos hc] at h; cases h; exact ⟨rfl, rfl⟩
  · next hc => rw [if_neg hc] at h; cases h

/-- the decision for two strings is the same: the refusal cannot depend on the text -/
theorem addTextS_independent (T : Tables) (check : Bool) (e : Nat) (s t : Str) :
    (addTextS T check e s).toBool = (addTextS T check e t).toBool := by
  rw [addTextS_decision, addTextS_decision]

/-- accepted text that is not empty is kept as it was given: one node with exactly that data
    (a NO-BREAK SPACE is not dropped) -/
theorem addTextS_kept (T : Tables) (check : Bool) (e : Nat) (s : Str) (hs : s ≠ [])
    (h : addText T check e = .ok ()) : addTextS T check e s = .ok [s] := by
  simp [addTextS_eq, h, Except.map, hs]

/-- **C06 (the text does not enter the decision, CDATA)** -/
theorem addCDATAS_decision (T : Tables) (check : Bool) (e : Nat) (s : Str) :
    (addCDATAS T check e s).toBool = (addCDATA T check e).toBool := by
  rw [addCDATAS_eq]; cases addCDATA T check e <;> rfl

theorem addCDATAS_kept (T : Tables) (check : Bool) (e : Nat) (s : Str)
    (h : addCDATA T check e = .ok ()) : addCDATAS T check e s = .ok [s] := by
  simp [addCDATAS_eq, h, Except.map]

/-- **C06 (the value does not enter the decision)** setAttribute with the value `v`: the outcome is the one of the
    single-call model - the attribute the keyword stands for together with the value as given, or the
    same error - whatever `v` is (None, '', 0, an element …) -/
theorem setAttributeV_decision (T : Tables) (check : Bool) (e kw : Nat) (v : Val) :
    setAttributeV T check e kw v = (setAttribute T check e kw).map (fun a => (a, v)) := by
  unfold setAttributeV setAttribute
  cases h1 : allowedAttrsOf T e with
  | none => simp [Except.map]
  | some l =>
    cases h2 : firstWithKw T kw l with
    | some a => simp [Except.map, h2]
    | none => cases check <;> simp [Except.map, h2]

/-- a keyword refused for one value is refused, with the same error, for every value -/
theorem setAttributeV_refusal_independent (T : Tables) (check : Bool) (e kw : Nat) (v w : Val) (x : Err)
    (h : setAttributeV T check e kw v = .error x) : setAttributeV T check e kw w = .error x := by
  rw [setAttributeV_decision] at h ⊢
  generalize setAttribute T check e kw = r at h ⊢
  cases r with
  | error y => exact h
  | ok a => cases h

/-- the hypotheses are satisfiable: an element without attribute table refuses a keyword given with None -/
example : setAttributeV ⟨[], [], [], [], []⟩ true 0 0 Val.none = .error .AttributeError := by rfl

end OdfModel.Props.C06
