/-
  Property C06: the fuel of the schema semantics is immaterial.  Whenever `fuelOk` holds for
  a pattern at fuel `f` (theorem `fuel_sufficient`: it does, at `FUEL`, for the content of every
  element declaration of the shipped schemas), `mayElems`, `mayText`, `mayAttrs` and `mustAttrs`
  return the same answer at every larger fuel — so the functions compute the (fuel-free) meaning
  of the pattern and not a cut-off of it.  Generic: for every schema, no kernel evaluation;
  `schema_semantics_fuel_independent` (Props/C06.lean) puts `sem_fuel` and `fuel_sufficient` together.
-/
import OdfModel.Grammar
import OdfModel.ListFacts
namespace OdfModel.Props.C06
open OdfModel OdfModel.Grammar

/-- One induction on the fuel for all four functions: they recurse along the same sub-patterns,
    which are the ones `fuelOk` visits. -/
theorem sem_fuel (S : Schema) (f : Nat) : ∀ p, fuelOk S f p = true → ∀ k,
    mayElems S (f + k) p = mayElems S f p ∧ mayText S (f + k) p = mayText S f p
    ∧ mayAttrs S (f + k) p = mayAttrs S f p ∧ mustAttrs S (f + k) p = mustAttrs S f p := by
  induction f with
  | zero => intro p h; simp [fuelOk] at h
  | succ f ih =>
    intro p h k
    rw [show f + 1 + k = (f + k) + 1 by omega]
    -- the induction hypothesis for a list of sub-patterns, in the forms the functions use
    have subs : ∀ l : List P, (∀ q ∈ l, fuelOk S f q = true) →
        l.flatMap (mayElems S (f + k)) = l.flatMap (mayElems S f) ∧ l.any (mayText S (f + k)) = l.any (mayText S f)
        ∧ l.flatMap (mayAttrs S (f + k)) = l.flatMap (mayAttrs S f)
        ∧ l.flatMap (mustAttrs S (f + k)) = l.flatMap (mustAttrs S f) ∧ l.map (mustAttrs S (f + k)) = l.map (mustAttrs S f) :=
      fun l hl => ⟨flatMap_congr_left fun q hq => (ih q (hl q hq) k).1, any_congr_left fun q hq => (ih q (hl q hq) k).2.1,
        flatMap_congr_left fun q hq => (ih q (hl q hq) k).2.2.1, flatMap_congr_left fun q hq => (ih q (hl q hq) k).2.2.2,
        List.map_congr_left fun q hq => (ih q (hl q hq) k).2.2.2⟩
    cases p with
    | ref n => simp only [fuelOk] at h; simpa only [mayElems, mayText, mayAttrs, mustAttrs] using ih _ h k
    | group l | interleave l | choice l =>
      simp only [fuelOk, List.all_eq_true] at h
      obtain ⟨h1, h2, h3, h4, h5⟩ := subs l h
      simp only [mayElems, mayText, mayAttrs, mustAttrs, h1, h2, h3, h4, h5, and_self]
    | optional q | zeroOrMore q | oneOrMore q | mixed q =>
      simp only [fuelOk] at h
      obtain ⟨h1, h2, h3, h4⟩ := ih q h k
      simp only [mayElems, mayText, mayAttrs, mustAttrs, h1, h2, h3, h4, and_self]
    | «attribute» nc q => cases nc <;> simp only [mayElems, mayText, mayAttrs, mustAttrs, and_self]
    | _ => simp only [mayElems, mayText, mayAttrs, mustAttrs, and_self]

end OdfModel.Props.C06
