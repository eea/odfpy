/-
  C10 over HISTORIES of one document object: saves that succeed, saves whose output fails part-way (the
  application keeps the document), edits that add automatic styles and content that refers to them, and the
  save that is finally judged.

  The model of `save()` (OdfModel/Styles.lean) reads the four containers of the document and nothing else:
  `OpenDocument` carries no field that `stylesxml()` / `contentxml()` / `_used_auto_styles` write.  A save,
  complete or aborted after any number of bytes, is therefore the identity on the modelled state (`step`).
  That this is what the real object does is checked by the correspondence of harness/c10.py, which takes real
  documents through such histories (file objects whose write() raises inside each member of the package,
  nodes that cannot be rendered) and sends the tree it ends with to the model.

  Proved: the final save of any history writes what the first save of a never saved document with the same edits
  writes; what was written before is still written after any additive history; an automatic style added at any
  point and referred to from content added at any point is written by the final save.
-/
import OdfModel.Props.C10
namespace OdfModel.Props.C10Hist
open OdfModel OdfModel.Styles OdfModel.Generated.StyleRefs OdfModel.Props.C10

def nameOf : Node → Nat
  | .elem n _ _ => n
  | .text _ => 0

/-- `container.addElement(k)`: `k` becomes the last child (the containers are always elements) -/
def addKid (n k : Node) : Node := .elem (nameOf n) (attrsOf n) (kidsOf n ++ [k])

/-- what the application does with the document object between two looks at it -/
inductive Op where
  /-- `save()` / `write()` that returns -/
  | save
  /-- `save()` / `write()` whose output raised after `written` bytes; the exception is caught, the object kept -/
  | failSave (written : Nat)
  /-- `doc.automaticstyles.addElement(e)` -/
  | addAuto (e : Node)
  /-- `doc.styles.addElement(k)` -/
  | addCommon (k : Node)
  /-- content added to the body -/
  | addBody (k : Node)
  /-- a master page (or a header / footer wrapped in one) added to the master styles -/
  | addMaster (k : Node)

def step (d : StyleDoc) : Op → StyleDoc
  | .save => d
  | .failSave _ => d
  | .addAuto e => { d with auto := addKid d.auto e }
  | .addCommon k => { d with styles := addKid d.styles k }
  | .addBody k => { d with body := addKid d.body k }
  | .addMaster k => { d with master := addKid d.master k }

def run (d : StyleDoc) (h : List Op) : StyleDoc := h.foldl step d

def isEdit : Op → Bool
  | .save => false
  | .failSave _ => false
  | _ => true

theorem run_cons (d : StyleDoc) (op : Op) (h : List Op) : run d (op :: h) = run (step d op) h := rfl

theorem run_append (d : StyleDoc) (h1 h2 : List Op) : run d (h1 ++ h2) = run (run d h1) h2 := by
  simp [run, List.foldl_append]

/-- saves, complete or aborted, can be struck from a history -/
theorem run_edits_only (d : StyleDoc) (h : List Op) : run d h = run d (h.filter isEdit) := by
  induction h generalizing d with
  | nil => rfl
  | cons op r ih =>
    cases op <;> simp [List.filter, isEdit, run_cons, step, ih]

/-- **C10 (a retry behaves like a first save)**: after any history - saves that succeeded, saves that failed
    after any number of bytes, edits in between - both parts get exactly the automatic styles that the first
    save of a document writes which got the same edits and was never saved before. -/
theorem retry_like_first_save (C : Cfg) (d : StyleDoc) (h : List Op) :
    contentKept C (run d h) = contentKept C (run d (h.filter isEdit)) ∧
    stylesKept C (run d h) = stylesKept C (run d (h.filter isEdit)) := by
  rw [← run_edits_only]; exact ⟨rfl, rfl⟩

theorem kidsOf_addKid (n k : Node) : kidsOf (addKid n k) = kidsOf n ++ [k] := rfl

def Grown (d d' : StyleDoc) : Prop :=
  kidsOf d.auto ⊆ kidsOf d'.auto ∧ kidsOf d.styles ⊆ kidsOf d'.styles ∧
  kidsOf d.body ⊆ kidsOf d'.body ∧ kidsOf d.master ⊆ kidsOf d'.master

theorem Grown.trans {a b c : StyleDoc} (h1 : Grown a b) (h2 : Grown b c) : Grown a c :=
  ⟨h1.1.trans h2.1, h1.2.1.trans h2.2.1, h1.2.2.1.trans h2.2.2.1, h1.2.2.2.trans h2.2.2.2⟩

theorem step_grown (d : StyleDoc) (op : Op) : Grown d (step d op) := by
  cases op <;> simp [Grown, step, kidsOf_addKid]

theorem run_grown (d : StyleDoc) (h : List Op) : Grown d (run d h) := by
  induction h generalizing d with
  | nil => simp [Grown, run]
  | cons op r ih => exact (step_grown d op).trans (ih (step d op))

theorem grown_of_mem (d : StyleDoc) {h : List Op} {op : Op} (hop : op ∈ h) : ∃ d', Grown (step d' op) (run d h) := by
  obtain ⟨h1, h2, rfl⟩ := List.append_of_mem hop
  exact ⟨run d h1, by rw [run_append]; exact run_grown _ h2⟩

theorem mem_auto_of_added {d : StyleDoc} {h : List Op} {e : Node} (he : Op.addAuto e ∈ h) :
    e ∈ kidsOf (run d h).auto := by
  obtain ⟨d', g⟩ := grown_of_mem d he
  exact g.1 (by simp [step, kidsOf_addKid])

theorem mem_body_of_added {d : StyleDoc} {h : List Op} {k : Node} (hk : Op.addBody k ∈ h) :
    k ∈ kidsOf (run d h).body := by
  obtain ⟨d', g⟩ := grown_of_mem d hk
  exact g.2.2.1 (by simp [step, kidsOf_addKid])

theorem mem_master_of_added {d : StyleDoc} {h : List Op} {k : Node} (hk : Op.addMaster k ∈ h) :
    k ∈ kidsOf (run d h).master := by
  obtain ⟨d', g⟩ := grown_of_mem d hk
  exact g.2.2.2 (by simp [step, kidsOf_addKid])

/-- **C10 (what was written stays written)**: an automatic style that a save of `d` writes to a part is
    written to that part by the save that ends any additive history of `d` - whatever saves failed on the way. -/
theorem kept_after_history (C : Cfg) (d : StyleDoc) (h : List Op) (e : Node) :
    (e ∈ contentKept C d → e ∈ contentKept C (run d h)) ∧ (e ∈ stylesKept C d → e ∈ stylesKept C (run d h)) := by
  obtain ⟨m1, m2, m3, m4⟩ := run_grown d h
  exact ⟨usedAuto_mono C (List.forall_mem_cons.mpr ⟨fun k hk => ⟨_, .head _, m2 hk⟩,
      List.forall_mem_cons.mpr ⟨fun k hk => ⟨_, .tail _ (.head _), m3 hk⟩, nofun⟩⟩) m1,
    usedAuto_mono C (List.forall_mem_cons.mpr ⟨fun k hk => ⟨_, .head _, m4 hk⟩, nofun⟩) m1⟩

/-- **C10 (new style after a failed save, content.xml)**: an automatic style `e` named `v` that the
    application adds at some point of a history, and body content `k` referring to `v` (through the attributes
    the code follows) that it adds at some point, are enough: the save that ends the history writes `e` to
    content.xml - wherever in the history saves succeeded or failed. -/
theorem new_style_kept_content (C : Cfg) (d : StyleDoc) (h : List Op) (e k : Node) (v : Str)
    (he : Op.addAuto e ∈ h) (hk : Op.addBody k ∈ h) (hn : styleNameOf e = some v) (hv : v ∈ refsNode C k) :
    e ∈ contentKept C (run d h) :=
  (kept_iff C _ _ e).mpr ⟨mem_auto_of_added he, v, hn,
    Reach.root (top := (run d h).body) (by simp) (mem_body_of_added hk) hv⟩

/-- **C10 (new style after a failed save, styles.xml)**: the same for a master page (a footer, a header in
    it) added to the master styles. -/
theorem new_style_kept_styles (C : Cfg) (d : StyleDoc) (h : List Op) (e k : Node) (v : Str)
    (he : Op.addAuto e ∈ h) (hk : Op.addMaster k ∈ h) (hn : styleNameOf e = some v) (hv : v ∈ refsNode C k) :
    e ∈ stylesKept C (run d h) :=
  (kept_iff C _ _ e).mpr ⟨mem_auto_of_added he, v, hn,
    Reach.root (top := (run d h).master) (by simp) (mem_master_of_added hk) hv⟩

/-- full strength (content.xml): the reference may use ANY style-reference attribute of the schema -/
theorem new_style_kept_content_schema (d : StyleDoc) (h : List Op) (e k : Node) (v : Str)
    (hw : WellNamed codeCfg.sp (run d h).auto)
    (he : Op.addAuto e ∈ h) (hk : Op.addBody k ∈ h) (hn : styleNameOf e = some v)
    (hv : v ∈ refsNode (specCfg schemaSingle schemaListTyped) k) :
    e ∈ contentKept codeCfg (run d h) :=
  closure_kept_content (run d h) hw e v (mem_auto_of_added he) hn
    (Reach.root (top := (run d h).body) (by simp) (mem_body_of_added hk) hv)

/-- full strength (styles.xml) -/
theorem new_style_kept_styles_schema (d : StyleDoc) (h : List Op) (e k : Node) (v : Str)
    (hw : WellNamed codeCfg.sp (run d h).auto)
    (he : Op.addAuto e ∈ h) (hk : Op.addMaster k ∈ h) (hn : styleNameOf e = some v)
    (hv : v ∈ refsNode (specCfg schemaSingle schemaListTyped) k) :
    e ∈ stylesKept codeCfg (run d h) :=
  closure_kept_styles (run d h) hw e v (mem_auto_of_added he) hn
    (Reach.root (top := (run d h).master) (by simp) (mem_master_of_added hk) hv)

/-! ### Non-vacuity -/

/-- the document of `chain` (a header paragraph style `X` with a data style `Y` behind it); the first save
    breaks after 200 bytes (inside styles.xml); then a paragraph style `P` (80) for new body text and a
    paragraph style `M` (77), with a list style `L` (76) behind it, for a new footer; a second failure inside
    content.xml; the retry -/
def retryHistory : List Op :=
  [ .failSave 200,
    .addAuto (.elem 110 [(styleNameAttr, [80])] []),
    .addBody (.elem 111 [(tsn, [80])] []),
    .addAuto (.elem 110 [(styleNameAttr, [77]), (a_style_list_style_name, [76])] []),
    .addAuto (.elem 114 [(styleNameAttr, [76])] []),
    .failSave 900,
    .addMaster (.elem 120 [] [.elem 121 [] [.elem 111 [(tsn, [77])] []]]),
    .save ]

theorem retry_example :
    namesOf (contentKept codeCfg (run chain retryHistory)) = [some [80]] ∧
    namesOf (stylesKept codeCfg (run chain retryHistory)) = [some Y, some X, some [77], some [76]] := by
  decide +kernel

end OdfModel.Props.C10Hist
