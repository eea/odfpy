/-
  C18Moin — the MoinMoin converter (model `OdfModel.Moin`, odf/odf2moinmoin.py) on the block vocabulary: lists (any
  depth), tables (rows, header rows, cells with running text), sections, frames / text boxes, foot and end notes, besides
  the paragraphs / headings / inline content of `OdfModel.MoinLemmas`.  `MoinSupported` is the class of documents,
  `visibleText` their text in the order in which the converter writes it (main text, then the note bodies);
  `moin_supported_total_complete_partial`: the conversion returns a string that carries it completely and in order,
  white space dropped on both sides (the shape of `complete_nonWs_partial` on the XHTML side).  `visibleText` counts every
  text node, where `Moin.mvis` stops at a leaf element and `Moin.pvisL` between the paragraphs; so `Sup.leaf` asks for no
  text below the leaf and `TopL.ws` for white space only, and `Moin.moin_total_complete_partial` is not a special case.
  Proof: `Good` is kept by the ways in which the loops put steps together (`Good.seq`, `.map`, `.ws`, `.skip`,
  `good_para`); one induction over the derivation goes through the six mutually recursive loops, the loop of `toString`
  is a seventh of the same kind (`TopGood`).
-/
import OdfModel.MoinLemmas
namespace OdfModel.Props.C18Moin
open OdfModel OdfModel.Moin OdfModel.Generated.Xhtml
open OdfModel.Xhtml (Node Attrs Err M pyInt)

/-- the character data that stands directly in an element list (`''.join(c.nodeValue or '' …)` of text_note) -/
def texts (l : List Node) : Str := (l.map (fun c => match c with | .text v => v | .elem .. => [])).flatten

/-- the label of a note: the character data of its first child (text:note-citation) -/
def citeText : List Node → Str
  | c :: _ => texts (kidsOf c)
  | [] => []

mutual
/-- visible text of the main flow, in document order: every text node; of a note only the citation label -/
def vmain : Node → Str
  | .text s => s
  | .elem q _ kids => if q = tNote then citeText kids else vmainL kids
def vmainL : List Node → Str
  | [] => []
  | n :: ns => vmain n ++ vmainL ns
end

/-- the main text of a note's body (second child, text:note-body) -/
def bodyMain : List Node → Str
  | _ :: b :: _ => vmainL (kidsOf b)
  | _ => []

mutual
/-- the bodies of the notes in the order in which the converter collects them (a note inside a note body first) -/
def vnotes : Node → Str
  | .text _ => []
  | .elem q _ kids => vnotesL kids ++ (if q = tNote then bodyMain kids else [])
def vnotesL : List Node → Str
  | [] => []
  | n :: ns => vnotes n ++ vnotesL ns
end

/-- **the visible text of the children of office:text**: paragraphs, headings, list items, table cells, link texts, text
    boxes, note labels — in document order —, then the note bodies as the converter emits them (at the end) -/
def visibleText (blocks : List Node) : Str := vmainL blocks ++ vnotesL blocks

/-- an element that is no note shows what its children show (`h` by evaluation for a concrete tag) -/
theorem v_elem (q : Str) (a : Attrs) (kids : List Node) (h : q ≠ tNote := by decide) :
    vmain (.elem q a kids) = vmainL kids ∧ vnotes (.elem q a kids) = vnotesL kids := by
  simp [vmain, vnotes, h]

theorem vmainL_texts (label : List Str) : vmainL (label.map Node.text) = texts (label.map Node.text) := by
  induction label with
  | nil => rfl
  | cons s r ih => simpa [vmainL, vmain, texts] using ih

theorem vnotesL_texts (label : List Str) : vnotesL (label.map Node.text) = [] := by
  induction label with
  | nil => rfl
  | cons s r ih => simp [vnotesL, vnotes, ih]

/-- white space only (indentation between block level elements) -/
def wsOnly (s : Str) : Prop := nonWs s = []
instance (s : Str) : Decidable (wsOnly s) := inferInstanceAs (Decidable (nonWs s = []))

/-- children without visible text (e.g. the columns of a table, the declarations in front of the text) -/
def noText (kids : List Node) : Prop := nonWs (vmainL kids) = [] ∧ nonWs (vnotesL kids) = []
instance (kids : List Node) : Decidable (noText kids) :=
  inferInstanceAs (Decidable (nonWs (vmainL kids) = [] ∧ nonWs (vnotesL kids) = []))

mutual
/-- running text as `textToString` meets it -/
inductive Sup : Node → Prop
  | text (s) : Sup (.text s)
  | markup (q a kids) : notBlock q → moinMethod q = some .inline_markup → SupL kids → Sup (.elem q a kids)
  | leaf (q a kids m) : notBlock q → moinMethod q = some m → leafMethod m = true → noText kids → Sup (.elem q a kids)
  | through (q a kids) : notBlock q → moinMethod q = some .textToString → SupL kids → Sup (.elem q a kids)
  | box (q a kids) : isContainer q = true → SupL kids → Sup (.elem q a kids)
  | para (q a kids) : (q = tP ∨ q = tH) → ParaOK a → SupL kids → Sup (.elem q a kids)
  | list (a kids) : ItemsL kids → Sup (.elem tList a kids)
  | table (a kids) : RowsL kids → Sup (.elem tTable a kids)
  | note (a ac ab) (label : List Str) (bk) : SupL bk →
      Sup (.elem tNote a [.elem tCitation ac (label.map Node.text), .elem tNoteBody ab bk])
inductive SupL : List Node → Prop
  | nil : SupL []
  | cons (n ns) : Sup n → SupL ns → SupL (n :: ns)
/-- the children of a text:list: items (list-item, list-header) and indentation -/
inductive ItemsL : List Node → Prop
  | nil : ItemsL []
  | ws (s rest) : wsOnly s → ItemsL rest → ItemsL (.text s :: rest)
  | item (q a kids rest) : q ≠ tNote → SubL kids → ItemsL rest → ItemsL (.elem q a kids :: rest)
/-- the children of a list item: paragraphs, headings, lists and indentation -/
inductive SubL : List Node → Prop
  | nil : SubL []
  | ws (s rest) : wsOnly s → SubL rest → SubL (.text s :: rest)
  | list (a kids rest) : ItemsL kids → SubL rest → SubL (.elem tList a kids :: rest)
  | para (q a kids rest) : (q = tP ∨ q = tH) → ParaOK a → SupL kids → SubL rest → SubL (.elem q a kids :: rest)
/-- the children of a table:table or table:table-header-rows -/
inductive RowsL : List Node → Prop
  | nil : RowsL []
  | ws (s rest) : wsOnly s → RowsL rest → RowsL (.text s :: rest)
  | header (a kids rest) : RowsL kids → RowsL rest → RowsL (.elem tHeaderRows a kids :: rest)
  | row (a kids rest) : CellsL kids → RowsL rest → RowsL (.elem tRow a kids :: rest)
  | other (q a kids rest) : q ≠ tHeaderRows → q ≠ tRow → q ≠ tNote → noText kids → RowsL rest → RowsL (.elem q a kids :: rest)
/-- the children of a table:table-row -/
inductive CellsL : List Node → Prop
  | nil : CellsL []
  | ws (s rest) : wsOnly s → CellsL rest → CellsL (.text s :: rest)
  | cell (q a kids rest) : q ≠ tNote → SupL kids → CellsL rest → CellsL (.elem q a kids :: rest)
end

/-- the children of office:text -/
inductive TopL : List Node → Prop
  | nil : TopL []
  | ws (s rest) : wsOnly s → TopL rest → TopL (.text s :: rest)
  | list (a kids rest) : ItemsL kids → TopL rest → TopL (.elem tList a kids :: rest)
  | box (q a kids rest) : isContainer q = true → SupL kids → TopL rest → TopL (.elem q a kids :: rest)
  | table (a kids rest) : RowsL kids → TopL rest → TopL (.elem tTable a kids :: rest)
  | para (q a kids rest) : (q = tPage ∨ q = tP ∨ q = tH) → ParaOK a → SupL kids → TopL rest → TopL (.elem q a kids :: rest)
  | other (q a kids rest) : q ≠ tList → isContainer q = false → q ≠ tTable → q ≠ tPage → q ≠ tP → q ≠ tH → q ≠ tNote →
      noText kids → TopL rest → TopL (.elem q a kids :: rest)

/-- the lines that `toString` appends for the collected notes, joined -/
def footStr (F : List (Str × Str)) : Str := (F.map (fun cb => cb.1 ++ [58, 32] ++ cb.2)).flatten

theorem footStr_append (F G : List (Str × Str)) : footStr (F ++ G) = footStr F ++ footStr G := by simp [footStr]

/-- a step started in state `st` succeeds, only appends notes `F` to the collected ones, its string carries `main` and
    the new note lines carry `notes` (white space dropped) -/
def Good (st : MSt) (r : M (Str × MSt)) (main notes : Str) : Prop :=
  ∃ t st' F, r = .ok (t, st') ∧ st'.foot = st.foot ++ F ∧ (nonWs main).Sublist (nonWs t) ∧
    (nonWs notes).Sublist (nonWs (footStr F))

/-- "`t` carries `m`" is `(nonWs m).Sublist (nonWs t)`; two strings joined with anything around and between them carry
    what they carried, in order -/
theorem carries_joined {m1 m2 t u : Str} (pre mid post : Str) (h1 : (nonWs m1).Sublist (nonWs t)) (h2 : (nonWs m2).Sublist (nonWs u)) :
    (nonWs (m1 ++ m2)).Sublist (nonWs (pre ++ t ++ mid ++ u ++ post)) := by
  simp only [nonWs_append]
  exact ((((h1.trans (List.sublist_append_right _ _)).trans (List.sublist_append_left _ _)).append h2).trans
    (List.sublist_append_left _ _))

theorem carries_wrapped {m t : Str} (pre post : Str) (h : (nonWs m).Sublist (nonWs t)) : (nonWs m).Sublist (nonWs (pre ++ t ++ post)) :=
  h.trans (sublist_nonWs (sublist_wrapped pre t post))

theorem sub_notes {n1 n2 : Str} {F1 F2 : List (Str × Str)} (h1 : (nonWs n1).Sublist (nonWs (footStr F1)))
    (h2 : (nonWs n2).Sublist (nonWs (footStr F2))) : (nonWs (n1 ++ n2)).Sublist (nonWs (footStr (F1 ++ F2))) := by
  rw [footStr_append, nonWs_append, nonWs_append]; exact h1.append h2

theorem nonWs_of_ws {s : Str} (h : wsOnly s) (x : Str) : nonWs (s ++ x) = nonWs x := by
  rw [nonWs_append, h]; rfl

theorem moinMethod_note : moinMethod tNote = some .text_note := by decide +kernel

theorem ne_note_of_method {q : Str} {m : MName} (h : moinMethod q = some m) (hm : m ≠ .text_note) : q ≠ tNote := by
  rintro rfl
  rw [moinMethod_note] at h
  exact hm (Option.some.inj h).symm

theorem nodeStr_through {q : Str} (h : notBlock q) (hm : moinMethod q = some .textToString) (sty : Styles) (st : MSt)
    (a : Attrs) (kids : List Node) : nodeStr sty st (.elem q a kids) = kidsStr sty st kids := by
  rw [nodeStr.eq_def]
  simp [h.1, h.2, hm]

theorem nodeStr_box {q : Str} (h : isContainer q = true) (sty : Styles) (st : MSt) (a : Attrs) (kids : List Node) :
    nodeStr sty st (.elem q a kids) = kidsStr sty st kids := by
  rw [nodeStr.eq_def]; simp [h]

theorem ne_of_container {q t : Str} (h : isContainer q = true) (ht : isContainer t = false) : q ≠ t := by
  rintro rfl; rw [ht] at h; cases h

theorem nodeStr_para {q : Str} (h : q = tP ∨ q = tH) (sty : Styles) (st : MSt) (a : Attrs) (kids : List Node) :
    nodeStr sty st (.elem q a kids) =
      match kidsStr sty st kids with
      | .error e => .error e
      | .ok (t, st1) => paraPost sty q a (inlineMarkup sty a t) st1 := by
  rw [nodeStr.eq_def]
  simp [(para_tag (.inr h)).2.1, h]
  cases kidsStr sty st kids <;> rfl

theorem nodeStr_list (sty : Styles) (st : MSt) (a : Attrs) (kids : List Node) :
    nodeStr sty st (.elem tList a kids) =
      itemsStr sty ((sty.list.lookup (getAttr a kStyleName)).getD false) 0 { st with last := some tList } kids := by
  rw [nodeStr.eq_def]
  simp +decide

theorem nodeStr_table (sty : Styles) (st : MSt) (a : Attrs) (kids : List Node) :
    nodeStr sty st (.elem tTable a kids) = rowsStr sty { st with last := some tTable } kids := by
  rw [nodeStr.eq_def]
  simp +decide

theorem nodeStr_note (sty : Styles) (st : MSt) (a ac ab : Attrs) (ck bk : List Node) :
    nodeStr sty st (.elem tNote a [.elem tCitation ac ck, .elem tNoteBody ab bk]) =
      match kidsStr sty st bk with
      | .error e => .error e
      | .ok (t, st1) => .ok ([94] ++ texts ck ++ [94], { st1 with foot := st1.foot ++ [(texts ck, t)] }) := by
  rw [nodeStr.eq_def]
  simp +decide [moinMethod_note, texts]
  cases kidsStr sty st bk <;> rfl

theorem good_nil (st : MSt) : Good st (.ok ([], st)) [] [] :=
  ⟨[], st, [], rfl, by simp, List.Sublist.refl _, List.Sublist.refl _⟩

theorem wraps_append (t u : Str) : ∃ pre mid post, t ++ u = pre ++ t ++ mid ++ u ++ post := ⟨[], [], [], by simp⟩

/-- two steps in a row whose strings are joined by `f` with both of them kept: visible text and notes concatenate.
    (`Good s` only looks at `s.foot`, so the second step may start from the first one's state with `last` changed.) -/
theorem Good.seq {st : MSt} {r1 : M (Str × MSt)} {m1 n1 m2 n2 : Str} (h1 : Good st r1 m1 n1)
    {r2 : MSt → M (Str × MSt)} (h2 : ∀ s, Good s (r2 s) m2 n2)
    {f : Str → Str → Str} (hf : ∀ t u, ∃ pre mid post, f t u = pre ++ t ++ mid ++ u ++ post) :
    Good st (match (generalizing := false) r1 with
      | .error e => .error e
      | .ok (t, st1) => match r2 st1 with
        | .error e => .error e
        | .ok (u, st2) => .ok (f t u, st2)) (m1 ++ m2) (n1 ++ n2) := by
  obtain ⟨t, st1, F1, rfl, hf1, hm1, hn1⟩ := h1
  obtain ⟨u, st2, F2, e2, hf2, hm2, hn2⟩ := h2 st1
  obtain ⟨pre, mid, post, e⟩ := hf t u
  exact ⟨f t u, st2, F1 ++ F2, by simp only [e2], by rw [hf2, hf1, List.append_assoc], e ▸ carries_joined pre mid post hm1 hm2,
    sub_notes hn1 hn2⟩

theorem Good.map {st : MSt} {r : M (Str × MSt)} {m n : Str} (h : Good st r m n) {f : Str → Str}
    (hf : ∀ t, ∃ pre post, f t = pre ++ t ++ post) :
    Good st (match (generalizing := false) r with
      | .error e => .error e
      | .ok (t, st1) => .ok (f t, st1)) m n := by
  obtain ⟨t, st1, F, rfl, hf1, hm, hn⟩ := h
  obtain ⟨pre, post, e⟩ := hf t
  exact ⟨f t, st1, F, rfl, hf1, e ▸ carries_wrapped pre post hm, hn⟩

theorem good_para {sty : Styles} {st : MSt} {q : Str} {a : Attrs} {r : M (Str × MSt)} {m n : Str} (hp : ParaOK a)
    (h : Good st r m n) :
    Good st (match (generalizing := false) r with
      | .error e => .error e
      | .ok (t, st1) => paraPost sty q a (inlineMarkup sty a t) st1) m n := by
  obtain ⟨t, st1, F, rfl, hf, hm, hn⟩ := h
  obtain ⟨r2, st2, h2, hf2, hs2⟩ := paraPost_ok sty q a (inlineMarkup sty a t) st1 hp
  exact ⟨r2, st2, F, h2, by rw [hf2, hf], (hm.trans (nonWs_inlineMarkup sty a t)).trans hs2, hn⟩

/-- how the loops skip indentation and elements without text: `Good` sees the visible text with white space dropped -/
theorem Good.congr {st : MSt} {r : M (Str × MSt)} {m n m' n' : Str} (h : Good st r m n) (hm : nonWs m' = nonWs m)
    (hn : nonWs n' = nonWs n) : Good st r m' n' := by
  unfold Good at h ⊢
  rwa [hm, hn]

theorem Good.ws {st : MSt} {r : M (Str × MSt)} {s : Str} {rest : List Node} (hs : wsOnly s)
    (h : Good st r (vmainL rest) (vnotesL rest)) : Good st r (vmainL (.text s :: rest)) (vnotesL (.text s :: rest)) :=
  h.congr (nonWs_of_ws hs _) rfl

theorem Good.skip {st : MSt} {r : M (Str × MSt)} {q : Str} {a : Attrs} {kids rest : List Node} (hne : q ≠ tNote)
    (hnt : noText kids) (h : Good st r (vmainL rest) (vnotesL rest)) :
    Good st r (vmainL (.elem q a kids :: rest)) (vnotesL (.elem q a kids :: rest)) :=
  h.congr (by simp [vmainL, nonWs_append, v_elem q a kids hne, hnt.1])
    (by simp [vnotesL, nonWs_append, v_elem q a kids hne, hnt.2])

mutual
theorem nodeStr_sup (sty : Styles) (st : MSt) (n : Node) (h : Sup n) :
    Good st (nodeStr sty st n) (vmain n) (vnotes n) := by
  match h with
  | .text s => exact ⟨s, st, [], rfl, (List.append_nil _).symm, .refl _, .refl _⟩
  | .markup q a kids hb hm hk =>
    simp only [nodeStr_markup hb hm, v_elem q a kids (ne_note_of_method hm (by decide))]
    exact (kidsStr_sup sty st kids hk).map (inlineMarkup_wraps sty a)
  | .leaf q a kids m hb hm hl hnt =>
    have hne : q ≠ tNote := ne_note_of_method hm (by rintro rfl; cases hl)
    obtain ⟨t, ht⟩ := nodeStr_leaf hb hm hl sty st a kids
    refine ⟨t, st, [], ht, by simp, ?_, ?_⟩ <;> simp [v_elem q a kids hne, hnt.1, hnt.2]
  | .through q a kids hb hm hk =>
    simp only [nodeStr_through hb hm, v_elem q a kids (ne_note_of_method hm (by decide))]
    exact kidsStr_sup sty st kids hk
  | .box q a kids hq hk =>
    simp only [nodeStr_box hq, v_elem q a kids (ne_of_container hq isContainer_note)]
    exact kidsStr_sup sty st kids hk
  | .para q a kids hq hp hk =>
    simp only [nodeStr_para hq, v_elem q a kids (para_tag (.inr hq)).1]
    exact good_para hp (kidsStr_sup sty st kids hk)
  | .list a kids hk =>
    simp only [nodeStr_list, v_elem tList a kids]
    exact itemsStr_sup sty _ 0 { st with last := some tList } kids hk
  | .table a kids hk =>
    simp only [nodeStr_table, v_elem tTable a kids]
    exact rowsStr_sup sty { st with last := some tTable } kids hk
  | .note a ac ab label bk hk =>
    -- the label goes to the main text, the body (its own notes first) to the note lines
    obtain ⟨t, st1, F, ht, hf, hs, hn⟩ := kidsStr_sup sty st bk hk
    refine ⟨_, _, F ++ [(texts (label.map Node.text), t)], by rw [nodeStr_note, ht], by simp [hf], ?_, ?_⟩
    · simp only [vmain, if_true, citeText, kidsOf]
      exact carries_wrapped [94] [94] (List.Sublist.refl _)
    · have e : vnotes (.elem tNote a [.elem tCitation ac (label.map Node.text), .elem tNoteBody ab bk]) =
          vnotesL bk ++ vmainL bk := by
        simp +decide [vnotes, vnotesL, vnotesL_texts, bodyMain, kidsOf]
      have := carries_wrapped (texts (label.map Node.text) ++ [58, 32]) [] hs
      rw [e]
      exact sub_notes hn (by simpa [footStr] using this)
termination_by structural h
theorem kidsStr_sup (sty : Styles) (st : MSt) (l : List Node) (h : SupL l) :
    Good st (kidsStr sty st l) (vmainL l) (vnotesL l) := by
  match h with
  | .nil => exact good_nil st
  | .cons n ns hn hns =>
    rw [kidsStr, vmainL, vnotesL]
    exact (nodeStr_sup sty st n hn).seq (fun s => kidsStr_sup sty s ns hns) wraps_append
termination_by structural h
theorem itemsStr_sup (sty : Styles) (o : Bool) (i : Nat) (st : MSt) (l : List Node) (h : ItemsL l) :
    Good st (itemsStr sty o i st l) (vmainL l) (vnotesL l) := by
  match h with
  | .nil => exact good_nil st
  | .ws s rest hs hr => rw [itemsStr]; exact (itemsStr_sup sty o i st rest hr).ws hs
  | .item q a kids rest hne hk hr =>
    simp only [itemsStr, vmainL, vnotesL, v_elem q a kids hne]
    exact (subitemsStr_sup sty i st kids hk).seq (fun s => itemsStr_sup sty o i { s with last := some q } rest hr)
      (fun t u => ⟨List.replicate i 32 ++ (if o then sOrdered else sBullet), [10], [], by simp⟩)
termination_by structural h
theorem subitemsStr_sup (sty : Styles) (i : Nat) (st : MSt) (l : List Node) (h : SubL l) :
    Good st (subitemsStr sty i st l) (vmainL l) (vnotesL l) := by
  match h with
  | .nil => exact good_nil st
  | .ws s rest hs hr => rw [subitemsStr]; exact (subitemsStr_sup sty i st rest hr).ws hs
  | .list a kids rest hk hr =>
    simp only [subitemsStr, if_true, vmainL, vnotesL, v_elem tList a kids]
    exact (itemsStr_sup sty _ (i + 3) { st with last := some tList } kids hk).seq
      (fun s => subitemsStr_sup sty i { s with last := some tList } rest hr) (fun t u => ⟨[10], [], [], by simp⟩)
  | .para q a kids rest hq hp hk hr =>
    obtain ⟨hne, -, hnl, -⟩ := para_tag (.inr hq)
    -- with the result of textToString named, what follows is paragraphToString and then the loop
    obtain ⟨t, st1, F, h1, hk'⟩ := kidsStr_sup sty st kids hk
    simp only [subitemsStr, if_neg hnl, Bool.or_eq_true, decide_eq_true_eq, hq, if_true, h1, vmainL, vnotesL,
      v_elem q a kids hne]
    exact (good_para hp ⟨t, st1, F, rfl, hk'⟩).seq (fun s => subitemsStr_sup sty i { s with last := some q } rest hr)
      wraps_append
termination_by structural h
theorem cellsStr_sup (sty : Styles) (st : MSt) (l : List Node) (h : CellsL l) :
    Good st (cellsStr sty st l) (vmainL l) (vnotesL l) := by
  match h with
  | .nil => exact good_nil st
  | .ws s rest hs hr => rw [cellsStr]; exact (cellsStr_sup sty st rest hr).ws hs
  | .cell q a kids rest hne hk hr =>
    simp only [cellsStr, vmainL, vnotesL, v_elem q a kids hne]
    exact (kidsStr_sup sty st kids hk).seq (fun s => cellsStr_sup sty { s with last := some q } rest hr)
      (fun t u => by
        obtain ⟨pre, post, e⟩ := inlineMarkup_wraps sty a t
        exact ⟨pre, post ++ sCellEnd, [], by simp [e]⟩)
termination_by structural h
theorem rowsStr_sup (sty : Styles) (st : MSt) (l : List Node) (h : RowsL l) :
    Good st (rowsStr sty st l) (vmainL l) (vnotesL l) := by
  match h with
  | .nil => exact good_nil st
  | .ws s rest hs hr =>
    rw [rowsStr, rowStr]
    exact ((rowsStr_sup sty st rest hr).map (fun u => ⟨[], [], by simp⟩)).ws hs
  | .header a kids rest hk hr =>
    simp only [rowsStr, rowStr, if_true, vmainL, vnotesL, v_elem tHeaderRows a kids]
    exact (rowsStr_sup sty { st with last := some tHeaderRows } kids hk).seq
      (fun s => rowsStr_sup sty s rest hr) wraps_append
  | .row a kids rest hk hr =>
    have hnh : tRow ≠ tHeaderRows := by decide
    simp only [rowsStr, rowStr, if_neg hnh, if_true, vmainL, vnotesL, v_elem tRow a kids]
    exact ((cellsStr_sup sty { st with last := some tRow } kids hk).map (fun t => ⟨sRowStart, [], by simp⟩)).seq
      (fun s => rowsStr_sup sty s rest hr) wraps_append
  | .other q a kids rest hq1 hq2 hne hnt hr =>
    rw [rowsStr, rowStr, if_neg hq1, if_neg hq2]
    exact ((rowsStr_sup sty { st with last := some q } rest hr).map (fun u => ⟨[], [], by simp⟩)).skip hne hnt
termination_by structural h
end

/-- `Good` for the loop of `toString`, its buffer joined: a seventh loop of the same kind -/
def TopGood (st : MSt) (r : M (List Str × MSt)) (main notes : Str) : Prop :=
  Good st (r.map fun p => (p.1.flatten, p.2)) main notes

/-- one child of office:text that the loop converts: `ro` is what the tests on the tag select, `r1` the call made -/
theorem top_seq {st : MSt} {ro : Option (M (Str × MSt))} {r1 : M (Str × MSt)} {m1 n1 m2 n2 : Str} (hr : ro = some r1)
    (h1 : Good st r1 m1 n1) {k : MSt → M (List Str × MSt)} (h2 : ∀ s, TopGood s (k s) m2 n2) {skip : M (List Str × MSt)} :
    TopGood st (match (generalizing := false) ro with
      | none => skip
      | some (.error e) => .error e
      | some (.ok (t, st1)) => match k st1 with
        | .error e => .error e
        | .ok (ts, st2) => .ok (if t.isEmpty then ts else t :: ts, st2)) (m1 ++ m2) (n1 ++ n2) := by
  subst hr
  have h := h1.seq h2 wraps_append
  obtain ⟨t, st1, -, rfl, -⟩ := h1
  cases hk : k st1 <;> simpa only [TopGood, hk, Except.map, flatten_push] using h

theorem topStr_sup (sty : Styles) (st : MSt) (l : List Node) (h : TopL l) :
    TopGood st (topStr sty st l) (vmainL l) (vnotesL l) := by
  induction h generalizing st with
  | nil => exact good_nil st
  | ws s rest hs _ ih => rw [topStr]; exact (ih st).ws hs
  | list a kids rest hk _ ih =>
    simp only [vmainL, vnotesL, v_elem tList a kids]
    rw [topStr]
    exact top_seq (if_pos rfl) (itemsStr_sup sty _ 0 { st with last := some tList } kids hk) ih
  | box q a kids rest hq hk _ ih =>
    simp only [vmainL, vnotesL, v_elem q a kids (ne_of_container hq isContainer_note)]
    rw [topStr]
    exact top_seq (by simp [ne_of_container hq isContainer_list, hq]) (kidsStr_sup sty st kids hk) ih
  | table a kids rest hk _ ih =>
    simp only [vmainL, vnotesL, v_elem tTable a kids]
    rw [topStr]
    exact top_seq (by simp +decide) (rowsStr_sup sty { st with last := some tTable } kids hk) ih
  | para q a kids rest hq hp hk _ ih =>
    obtain ⟨hne, hc, hl, ht⟩ := para_tag hq
    simp only [vmainL, vnotesL, v_elem q a kids hne]
    rw [topStr]
    exact top_seq (by simp [hc, hl, ht, or_assoc.2 hq]; rfl) (good_para hp (kidsStr_sup sty st kids hk)) ih
  | other q a kids rest h1 h2 h3 h4 h5 h6 hne hnt _ ih =>
    rw [topStr]
    simp only [h1, h2, h3, h4, h5, h6, if_false, Bool.false_eq_true, Bool.or_false, decide_false]
    exact (ih st).skip hne hnt

/-- **the quantifier of C18 for the MoinMoin converter as far as it is proved**: the two parsed package members
    (styles.xml, content.xml as minidom shows them) of a text document such that
    * the styles are readable by the model (`loadStyles` succeeds: margins written `digits[.digits]unit`,
      style:text-position empty / sub… / super…),
    * there is an office:body whose first element child is the text element, with children `blocks`,
    * `blocks` is in `TopL`: indentation, paragraphs, headings and draw:page (`ParaOK`: outline level absent or decimal),
      lists (`ItemsL` / `SubL`: items with paragraphs, headings and nested lists of any depth), tables (`RowsL` / `CellsL`:
      rows, header rows, any other child without text; cells with running text), the containers (`isContainer`, the
      generated `CONTAINER_TAGS` as of af61005: sections, frames, text boxes, drawing shapes, numbered paragraphs, the
      indexes with index title and index body), and other children without text;
      running text (`Sup`) is character data, the `inline_markup` elements (spans, links, bookmark references …), text:s /
      tab / line-break / images / ignored and template elements (…-source) without text, the containers, paragraphs, headings, lists,
      tables, and notes of the shape [text:note-citation [character data], text:note-body [running text]] — also inside
      note bodies.
    EXCLUDED, because the converter (and the model) drops their text — each tested on the real converter:
    * character data directly inside text:list, text:list-item, table:table, table:table-row, office:text that is not
      white space (not valid ODF),
    * children of a list item other than text:p / text:h / text:list (e.g. text:number),
    * children of a table other than rows and header rows that contain text: table:table-rows, table:table-row-group
      (known, findings/C18.md "Round 5"),
    * children of office:text other than p / h / list / table / draw:page / the containers that contain text,
    * elements without method in `ODF2MoinMoin.elements` (written ` {tag} `), elements inside a note citation. -/
inductive MoinSupported (stylesDoc contentDoc : Node) : List Node → Prop
  | mk (sty : Styles) (body : Node) (bs : List Node) (textEl : Node) (more : List Node) :
      loadStyles stylesDoc contentDoc = .ok sty → byTag contentDoc tBody = body :: bs →
      elems (kidsOf body) = textEl :: more → TopL (kidsOf textEl) → MoinSupported stylesDoc contentDoc (kidsOf textEl)

/-- the full statement of the MoinMoin half of C18: for EVERY content.xml with an office:body that has an element child
    (not only `MoinSupported` ones; not even readable styles are asked for) the conversion returns a string that carries
    the visible text in order.  False for the excluded shapes listed at `MoinSupported` (the converter drops their text):
    `moinTotalCompleteFull_false`. -/
def MoinTotalCompleteFull : Prop :=
  ∀ (stylesDoc contentDoc body : Node) (bs : List Node) (textEl : Node) (more : List Node),
    byTag contentDoc tBody = body :: bs → elems (kidsOf body) = textEl :: more →
    ∃ out, Moin.toString stylesDoc contentDoc = .ok out ∧
      (nonWs (visibleText (kidsOf textEl))).Sublist (nonWs out)

/-- **C18 (MoinMoin: total and complete, lists / tables / sections / text boxes / notes) — partial**: for every
    `MoinSupported` document `Moin.toString` returns a string (no `Err`), and the non-white-space characters of the
    visible text — paragraphs, headings, list items at any depth, table cells, header rows, link texts, text boxes,
    sections, note labels in document order, then the note bodies in the order in which the converter emits them — are a
    subsequence of the non-white-space characters of the output.  Missing for the full statement
    (`MoinTotalCompleteFull`): the shapes excluded by `MoinSupported` (see there), and white space itself (`str.strip()`
    and the cell / paragraph separators change it). -/
theorem moin_supported_total_complete_partial (stylesDoc contentDoc : Node) (blocks : List Node)
    (h : MoinSupported stylesDoc contentDoc blocks) :
    ∃ out, Moin.toString stylesDoc contentDoc = .ok out ∧ (nonWs (visibleText blocks)).Sublist (nonWs out) := by
  obtain ⟨sty, body, bs, textEl, more, h1, h2, h3, h4⟩ := h
  obtain ⟨t, st', F, ht, hf, hm, hn⟩ := topStr_sup sty {} (kidsOf textEl) h4
  cases hts : topStr sty {} (kidsOf textEl) with
  | error e => rw [hts] at ht; cases ht
  | ok v =>
    rw [hts] at ht; cases ht
    obtain ⟨out, ho, hs⟩ := toString_of_topStr h1 h2 h3 hts
    refine ⟨out, ho, .trans ?_ (sublist_nonWs hs)⟩
    rw [hf, visibleText, nonWs_append, nonWs_append]
    exact hm.append hn

/-- **C18 (MoinMoin: total) — partial**: a `MoinSupported` document is converted without error -/
theorem moin_supported_total_partial (stylesDoc contentDoc : Node) (blocks : List Node)
    (h : MoinSupported stylesDoc contentDoc blocks) : ∀ e, Moin.toString stylesDoc contentDoc ≠ .error e := by
  obtain ⟨out, ho, _⟩ := moin_supported_total_complete_partial stylesDoc contentDoc blocks h
  intro e he; rw [ho] at he; cases he

/-! ## the hypotheses are satisfiable -/

def tText : Str := [111, 102, 102, 105, 99, 101, 58, 116, 101, 120, 116]  -- office:text
def tSpan : Str := [116, 101, 120, 116, 58, 115, 112, 97, 110]  -- text:span
def tListItem : Str := [116, 101, 120, 116, 58, 108, 105, 115, 116, 45, 105, 116, 101, 109]  -- text:list-item
def tCell : Str := [116, 97, 98, 108, 101, 58, 116, 97, 98, 108, 101, 45, 99, 101, 108, 108]  -- table:table-cell
def tColumn : Str := [116, 97, 98, 108, 101, 58, 116, 97, 98, 108, 101, 45, 99, 111, 108, 117, 109, 110]  -- table:table-column

/-- styles.xml without any style, as minidom shows it -/
def exStyles : Node := .elem [] [] []
/-- content.xml with the given children of office:text, as minidom shows it -/
def exContent (blocks : List Node) : Node := .elem [] [] [.elem tBody [] [.elem tText [] blocks]]

/-- `<h outline-level="1">T</h>  <p>a<span>b</span><note><citation>1</citation><body><p>n</p></body></note></p>
    <list><item><p>i</p><list><item><p>j</p></item></list></item></list>
    <table><column/><header-rows><row><cell><p>h</p></cell></row></header-rows><row><cell><p>c</p></cell></row></table>
    <section><p>s<frame><text-box><p>x</p></text-box></frame></p></section>`, indented -/
def exBlocks : List Node :=
  [.elem tH [(kOutline, [49])] [.text [84]], .text [10, 32],
   .elem tP [] [.text [97], .elem tSpan [] [.text [98]],
     .elem tNote [] [.elem tCitation [] ([[49]].map Node.text), .elem tNoteBody [] [.elem tP [] [.text [110]]]]],
   .elem tList [] [.text [10], .elem tListItem [] [.elem tP [] [.text [105]],
     .elem tList [] [.elem tListItem [] [.elem tP [] [.text [106]]]]]],
   .elem tTable [] [.elem tColumn [] [], .elem tHeaderRows [] [.elem tRow [] [.elem tCell [] [.elem tP [] [.text [104]]]]],
     .elem tRow [] [.elem tCell [] [.elem tP [] [.text [99]]]]],
   .elem tSection [] [.elem tP [] [.text [115], .elem tFrame [] [.elem tTextBox [] [.elem tP [] [.text [120]]]]]]]

theorem SupL.one {n : Node} (h : Sup n) : SupL [n] := .cons _ _ h .nil

theorem sup_par (s : Str) : Sup (.elem tP [] [.text s]) := .para tP [] _ (.inl rfl) (.inl rfl) (.one (.text s))

/-- `exContent w` beside the empty styles.xml is a supported document as soon as its blocks are (`h1`, `h2` by evaluation
    for a given `w`: they look at every descendant) -/
theorem supported_ex {w bs : List Node} {sty : Styles} (h1 : loadStyles exStyles (exContent w) = .ok sty)
    (h2 : byTag (exContent w) tBody = .elem tBody [] [.elem tText [] w] :: bs) (h : TopL w) :
    MoinSupported exStyles (exContent w) w :=
  .mk sty _ bs (.elem tText [] w) [] h1 h2 rfl h

example : MoinSupported exStyles (exContent exBlocks) exBlocks := by
  have nbSpan : notBlock tSpan := by unfold notBlock; decide +kernel
  have item : ∀ s rest, SubL rest → SubL (.elem tP [] [.text s] :: rest) := fun s rest h =>
    .para tP [] _ rest (.inl rfl) (.inl rfl) (.one (.text s)) h
  have cell : ∀ s, CellsL [.elem tCell [] [.elem tP [] [.text s]]] := fun s =>
    .cell tCell [] _ [] (by decide) (.one (sup_par s)) .nil
  refine supported_ex rfl rfl ?_
  refine .para tH _ _ _ (.inr (.inr rfl)) (.inr ⟨1, by decide⟩) (.one (.text _)) ?_
  refine .ws _ _ (by decide) ?_
  refine .para tP _ _ _ (.inr (.inl rfl)) (.inl rfl) ?_ ?_
  · exact .cons _ _ (.text _) (.cons _ _ (.markup tSpan [] _ nbSpan (by decide) (.one (.text _)))
      (.one (.note [] [] [] [[49]] _ (.one (sup_par _)))))
  refine .list [] _ _ ?_ ?_
  · exact .ws _ _ (by decide) (.item tListItem [] _ [] (by decide)
      (item _ _ (.list [] _ [] (.item tListItem [] _ [] (by decide) (item _ _ .nil) .nil) .nil)) .nil)
  refine .table [] _ _ ?_ ?_
  · exact .other tColumn [] [] _ (by decide) (by decide) (by decide) ⟨rfl, rfl⟩
      (.header [] _ _ (.row [] _ [] (cell _) .nil) (.row [] _ [] (cell _) .nil))
  exact .box tSection [] _ [] isContainer_section (.one (.para tP [] _ (.inl rfl) (.inl rfl) (.cons _ _ (.text _)
    (.one (.box tFrame [] _ isContainer_frame (.one (.box tTextBox [] _ isContainer_textBox (.one (sup_par _))))))))) .nil

/-- its visible text: T a b 1 i j h c s x, then the note body n -/
example : visibleText exBlocks = [84, 10, 32, 97, 98, 49, 10, 105, 106, 104, 99, 115, 120, 110] := by rfl
/-- what the model writes for it: "= T =\\n\\n\\nab^1^\\n * i\\n    * j\\n\\n\\n\\n||h||\\n||c||\\n\\nsx\\n----\\n1: n\\n" -/
example : (Moin.toString exStyles (exContent exBlocks)).toOption =
    some [61, 32, 84, 32, 61, 10, 10, 10, 97, 98, 94, 49, 94, 10, 32, 42, 32, 105, 10, 32, 32, 32, 32, 42, 32, 106, 10, 10,
      10, 10, 124, 124, 104, 124, 124, 10, 124, 124, 99, 124, 124, 10, 10, 115, 120, 10, 45, 45, 45, 45, 10, 49, 58, 32, 110,
      10] := by decide +kernel

/-! ## the exclusions are necessary: the model (like odf2moinmoin.py, tested on .odt files built with odfpy) drops this text -/

def tNumber : Str := [116, 101, 120, 116, 58, 110, 117, 109, 98, 101, 114]  -- text:number
def tRows : Str := [116, 97, 98, 108, 101, 58, 116, 97, 98, 108, 101, 45, 114, 111, 119, 115]  -- table:table-rows

/-- `<list><item><number>1.</number><p>i</p></item></list>` → " * i\n\n": the text:number is lost -/
example : (Moin.toString exStyles (exContent [.elem tList [] [.elem tListItem []
    [.elem tNumber [] [.text [49, 46]], .elem tP [] [.text [105]]]]])).toOption = some [32, 42, 32, 105, 10, 10] := by
  decide +kernel

/-- `<table><table-rows><row><cell><p>c</p></cell></row></table-rows></table>` → "": the row group is skipped -/
example : (Moin.toString exStyles (exContent [.elem tTable [] [.elem tRows [] [.elem tRow [] [.elem tCell []
    [.elem tP [] [.text [99]]]]]]])).toOption = some [] := by decide +kernel

/-! ## block-level containers (af61005): the classes `m-top-frame` … `m-nested-numbered-paragraph` of harness/c18gen.py

  Each witness is the minimal document of the harness corpus (`moin-top-frame`, `moin-top-shape`, `shape-in-paragraph`,
  `moin-top-index`, `moin-index-in-section`, `moin-top-numbered-paragraph`, `moin-numbered-paragraph-in-cell`), as minidom
  shows its content.xml, the text inside the container written with digits; the real converter gives the same strings
  (correspondence). -/

def tToc : Str := [116, 101, 120, 116, 58, 116, 97, 98, 108, 101, 45, 111, 102, 45, 99, 111, 110, 116, 101, 110, 116]  -- text:table-of-content
def tTocSource : Str := [116, 101, 120, 116, 58, 116, 97, 98, 108, 101, 45, 111, 102, 45, 99, 111, 110, 116, 101, 110, 116, 45, 115, 111, 117, 114, 99, 101]  -- text:table-of-content-source
def tIndexBody : Str := [116, 101, 120, 116, 58, 105, 110, 100, 101, 120, 45, 98, 111, 100, 121]  -- text:index-body
def tIndexTitle : Str := [116, 101, 120, 116, 58, 105, 110, 100, 101, 120, 45, 116, 105, 116, 108, 101]  -- text:index-title
def tNumPar : Str := [116, 101, 120, 116, 58, 110, 117, 109, 98, 101, 114, 101, 100, 45, 112, 97, 114, 97, 103, 114, 97, 112, 104]  -- text:numbered-paragraph
def tRect : Str := [100, 114, 97, 119, 58, 114, 101, 99, 116]  -- draw:rect

/-- the conversion of the document with these children of office:text succeeds and loses visible text -/
def lostIn (blocks : List Node) : Bool :=
  match Moin.toString exStyles (exContent blocks) with
  | .ok out => !(decide ((nonWs (visibleText blocks)).Sublist (nonWs out)))
  | .error _ => false

def par (c : Nat) : Node := .elem tP [] [.text [c]]

/-- `<table-of-content><table-of-content-source/><index-body><index-title><p>1</p></index-title><p>2</p></index-body>
    </table-of-content>` -/
def toc : Node := .elem tToc [] [.elem tTocSource [] [], .elem tIndexBody [] [.elem tIndexTitle [] [par 49], par 50]]

/-- `<p>a</p><frame><text-box><p>2</p></text-box></frame><p>b</p>` (m-top-frame) -/
def wTopFrame : List Node := [par 97, .elem tFrame [] [.elem tTextBox [] [par 50]], par 98]
/-- `<p>a</p><rect><p>2</p></rect><p>b</p>` (m-top-shape) -/
def wTopShape : List Node := [par 97, .elem tRect [] [par 50], par 98]
/-- `<p>a<rect><p>2</p></rect>b</p>` (m-nested-shape) -/
def wNestedShape : List Node := [.elem tP [] [.text [97], .elem tRect [] [par 50], .text [98]]]
/-- `<p>a</p>` the table of content `<p>b</p>` (m-top-index) -/
def wTopIndex : List Node := [par 97, toc, par 98]
/-- the same inside a section (m-nested-index) -/
def wNestedIndex : List Node := [.elem tSection [] [par 97, toc, par 98]]
/-- `<p>a</p><numbered-paragraph><p>2</p></numbered-paragraph><p>b</p>` (m-top-numbered-paragraph) -/
def wTopNumPar : List Node := [par 97, .elem tNumPar [] [par 50], par 98]
/-- the numbered paragraph inside a table cell (m-nested-numbered-paragraph) -/
def wNestedNumPar : List Node :=
  [.elem tTable [] [.elem tRow [] [.elem tCell [] [par 97, .elem tNumPar [] [par 50], par 98]]]]

/-- **tie to the source** (`CONTAINER_TAGS` / `elements`, regenerated): shapes, numbered paragraphs and the parts of an
    index are containers, the index source is a template (do_nothing) -/
theorem containers_of_the_witnesses :
    isContainer tRect = true ∧ isContainer tNumPar = true ∧ isContainer tToc = true ∧ isContainer tIndexBody = true ∧
    isContainer tIndexTitle = true ∧ isContainer tTocSource = false ∧ moinMethod tTocSource = some .do_nothing := by
  decide +kernel

/-- **C18 (MoinMoin): the containers are inside the proved quantifier** — the seven witnesses are `MoinSupported`
    documents, so `moin_supported_total_complete_partial` applies to them (and to every document built the same way) -/
theorem witnesses_supported : ∀ w ∈ [wTopFrame, wTopShape, wNestedShape, wTopIndex, wNestedIndex, wTopNumPar, wNestedNumPar],
    MoinSupported exStyles (exContent w) w := by
  obtain ⟨hRect, hNum, hToc, hBody, hTitle, hSrcC, hSrcM⟩ := containers_of_the_witnesses
  have sp : ∀ c, Sup (par c) := fun c => sup_par [c]
  have tp : ∀ c rest, TopL rest → TopL (par c :: rest) := fun c rest h =>
    .para tP [] _ rest (.inr (.inl rfl)) (.inl rfl) (.one (.text _)) h
  have nbSrc : notBlock tTocSource := by refine ⟨hSrcC, ?_, ?_, ?_, ?_, ?_⟩ <;> decide
  have kToc : SupL [.elem tTocSource [] [], .elem tIndexBody [] [.elem tIndexTitle [] [par 49], par 50]] :=
    .cons _ _ (.leaf tTocSource [] [] .do_nothing nbSrc hSrcM rfl ⟨rfl, rfl⟩)
      (.one (.box tIndexBody [] _ hBody (.cons _ _ (.box tIndexTitle [] _ hTitle (.one (sp 49))) (.one (sp 50)))))
  have sNum : Sup (.elem tNumPar [] [par 50]) := .box tNumPar [] _ hNum (.one (sp 50))
  have three : ∀ n, Sup n → SupL [par 97, n, par 98] := fun n h => .cons _ _ (sp 97) (.cons _ _ h (.one (sp 98)))
  intro w hw
  simp only [List.mem_cons, List.not_mem_nil, or_false] at hw
  rcases hw with rfl | rfl | rfl | rfl | rfl | rfl | rfl
  · exact supported_ex rfl rfl (tp 97 _ (.box tFrame [] _ _ isContainer_frame
      (.one (.box tTextBox [] _ isContainer_textBox (.one (sp 50)))) (tp 98 _ .nil)))
  · exact supported_ex rfl rfl (tp 97 _ (.box tRect [] _ _ hRect (.one (sp 50)) (tp 98 _ .nil)))
  · exact supported_ex rfl rfl (.para tP [] _ [] (.inr (.inl rfl)) (.inl rfl)
      (.cons _ _ (.text _) (.cons _ _ (.box tRect [] _ hRect (.one (sp 50))) (.one (.text _)))) .nil)
  · exact supported_ex rfl rfl (tp 97 _ (.box tToc [] _ _ hToc kToc (tp 98 _ .nil)))
  · exact supported_ex rfl rfl (.box tSection [] _ [] isContainer_section (three _ (.box tToc [] _ hToc kToc)) .nil)
  · exact supported_ex rfl rfl (tp 97 _ (.box tNumPar [] _ _ hNum (.one (sp 50)) (tp 98 _ .nil)))
  · exact supported_ex rfl rfl
      (.table [] _ [] (.row [] _ [] (.cell tCell [] _ [] (by decide) (three _ sNum) .nil) .nil) .nil)

/-- `moin_supported_total_complete_partial` read as a test -/
theorem lostIn_of_supported {w : List Node} (h : MoinSupported exStyles (exContent w) w) : lostIn w = false := by
  obtain ⟨out, ho, hs⟩ := moin_supported_total_complete_partial _ _ _ h
  simp [lostIn, ho, hs]

/-- **C18 (MoinMoin, class m-top-frame)**: the text box of a frame that is a child of office:text is kept -/
theorem moin_top_frame_text_kept : lostIn wTopFrame = false := lostIn_of_supported (witnesses_supported _ (by simp))
/-- **C18 (MoinMoin, class m-top-shape)**: the paragraphs of a drawing shape that is a child of office:text are kept -/
theorem moin_top_shape_text_kept : lostIn wTopShape = false := lostIn_of_supported (witnesses_supported _ (by simp))
/-- **C18 (MoinMoin, class m-nested-shape)**: a drawing shape inside running text is converted with its paragraphs -/
theorem moin_nested_shape_text_kept : lostIn wNestedShape = false := lostIn_of_supported (witnesses_supported _ (by simp))
/-- **C18 (MoinMoin, class m-top-index)**: a table of content that is a child of office:text is kept with its title -/
theorem moin_top_index_text_kept : lostIn wTopIndex = false := lostIn_of_supported (witnesses_supported _ (by simp))
/-- **C18 (MoinMoin, class m-nested-index)**: also inside a section -/
theorem moin_nested_index_text_kept : lostIn wNestedIndex = false := lostIn_of_supported (witnesses_supported _ (by simp))
/-- **C18 (MoinMoin, class m-top-numbered-paragraph)**: a numbered paragraph that is a child of office:text is kept -/
theorem moin_top_numbered_paragraph_text_kept : lostIn wTopNumPar = false :=
  lostIn_of_supported (witnesses_supported _ (by simp))
/-- **C18 (MoinMoin, class m-nested-numbered-paragraph)**: also inside a cell -/
theorem moin_nested_numbered_paragraph_text_kept : lostIn wNestedNumPar = false :=
  lostIn_of_supported (witnesses_supported _ (by simp))

/-- what the model (and the converter) writes for `wTopFrame`: a, blank line, 2, blank line, b -/
example : (Moin.toString exStyles (exContent wTopFrame)).toOption = some [97, 10, 10, 50, 10, 10, 98, 10] := by decide +kernel

def tLine : Str := [100, 114, 97, 119, 58, 108, 105, 110, 101]  -- draw:line
def tGroup : Str := [100, 114, 97, 119, 58, 103]  -- draw:g

/-- **C18 (MoinMoin, classes m-top-shape-unlisted / m-nested-shape-unlisted)**: draw:line and draw:g (a group of
    shapes) hold paragraphs too; since they are in `CONTAINER_TAGS` their paragraphs are carried, as children of office:text
    and inside running text (corpus document `moin-line-and-group`) -/
theorem moin_line_and_group_text_kept :
    lostIn [par 97, .elem tLine [] [par 50], par 98] = false ∧ lostIn [par 97, .elem tGroup [] [.elem tRect [] [par 50]], par 98] = false ∧
    lostIn [.elem tP [] [.text [97], .elem tLine [] [par 50], .text [98]]] = false ∧
    lostIn [.elem tP [] [.text [97], .elem tGroup [] [.elem tRect [] [par 50]], .text [98]]] = false := by
  decide +kernel

/-- **C18 (MoinMoin): the full statement is false in the model** — not for a container (af61005), but for a text:number
    inside a list item (generated numbering; the harness does not demand it): `MoinTotalCompleteFull` quantifies over
    every text node of the document -/
theorem moinTotalCompleteFull_false : ¬ MoinTotalCompleteFull := by
  let w : List Node := [.elem tList [] [.elem tListItem [] [.elem tNumber [] [.text [49, 46]], .elem tP [] [.text [105]]]]]
  intro h
  obtain ⟨out, ho, hs⟩ := h exStyles (exContent w) (.elem tBody [] [.elem tText [] w]) []
    (.elem tText [] w) [] rfl rfl
  have hl : lostIn w = true := by decide +kernel
  simp [lostIn, ho] at hl
  exact hl hs

end OdfModel.Props.C18Moin
