/-
  Property C09 × C04 — LOADS keep the document indexes coherent (cross-layer: LoadSax events → DomDoc operations).
  C09 speaks of "any history of tree edits, serialisations and LOADS".  Props/C09.lean proves the index invariant for
  every DomDoc operation; LoadSax.lean models which TREE `LoadParser` (odf/load.py) builds from a SAX event stream, without
  the indexes.  Here the DOM calls of a load are written down as a list of DomDoc operations (`opsOfEvents`), shown to be a
  history that C09's reachability theorem quantifies over and to keep the loader invariant `LInv` (`load_inv`: stretch by
  stretch, `LStep`), and shown to be exactly the construction script of the forest LoadSax builds (`load_tree_eq_partial`).
  Ids are written `Nat` here (`Dom.Id` is an abbreviation of `Nat`; `omega` wants to see `Nat`).
-/
import OdfModel.DomDoc
import OdfModel.LoadSax
import OdfModel.Props.C09
import OdfModel.Props.C04
namespace OdfModel.Props.C09Load
open OdfModel OdfModel.Xml OdfModel.Dom OdfModel.DomDoc OdfModel.Props.C07 OdfModel.Props.C08 OdfModel.Props.C09
open OdfModel.LoadSax (Event evN evF)

/-! ### the operations of a load -/

/-- `for attr, value in qattributes.items(): self.setAttrNS(attr[0], attr[1], value)`; `tk` = token of the attribute
    key, `tv` = token of the converted value -/
def attrOps (tk : QName → Nat) (tv : QName → Str → Nat) (e : Nat) : List (QName × Str) → List DOp
  | [] => []
  | (k, v) :: r => .tree (.setAttrNS e (tk k) (.ok (tv k v))) :: attrOps tk tv e r

/-- `content = ''.join(self.data); if content: par.addText(content, check_grammar=False)` -/
def flushOps (par : Nat) (pend : Bool) (n : Nat) : List DOp :=
  if pend then [.tree (.addText par n true true)] else []

/-- the id counter after the flush -/
def flushNext (pend : Bool) (n : Nat) : Nat := if pend then n + 1 else n

/-- the DomDoc operations LoadParser performs for the events INSIDE ONE ROUTED SECTION (parse = True, skip = 0): the
    forest that is appended below the section object `sec` (office:body, office:styles, …); `st` = the open elements
    (innermost first), `pend` = character data is pending (`''.join(data) != ''`), `n` = the next unused id.
    Statement by statement (odf/load.py):
      characters(data)            self.data.append(data)                       no DOM call
      startElementNS(tag, attrs)  if content: self.parent.addText(content, check_grammar=False)        `flushOps`
                                  e = Element(qname=tag, qattributes=attrdict, check_grammar=False)     `.newNode`, `attrOps`
                                      (Element.__init__: one setAttrNS per entry of qattributes)
                                  self.parent.addElement(e, check_grammar=False)                        `.addElement par e true`
                                  self.parent = e                                                        push
      endElementNS(tag)           if str: self.curr.addText(str, check_grammar=False)                   `flushOps`
                                  self.curr = self.curr.parentNode; self.parent = self.curr            pop
    `check_grammar=False` is the verdict `true` of the add* wrappers.  The ids of the new objects are taken from the counter
    (a new Python object is never an existing one: every id ≥ n is unused, hypothesis `LInv.blank`).
    NOT covered: the routing of the eight section start tags themselves (the section objects exist since
    `OpenDocument.__init__` — `skeleton` below — and only receive attributes, a `SameLinks` change), the skipped repeated
    font declarations (no DOM call at all), an attribute converter that raises (the load stops there: the operations emitted
    so far are a prefix of the ones here), the end tag of the section itself (`opsOfEvents` stops at an end tag that has no
    start tag in the stream). -/
def opsOfEvents (tq : QName → Nat) (tk : QName → Nat) (tv : QName → Str → Nat) (sec : Nat) :
    List Nat → Bool → Nat → List Event → List DOp
  | _, _, _, [] => []
  | st, pend, n, .chars s :: r => opsOfEvents tq tk tv sec st (pend || !s.isEmpty) n r
  | st, pend, n, .start q a :: r =>
    flushOps (st.headD sec) pend n ++
      (.tree (.newNode (flushNext pend n) .elem (tq q)) :: attrOps tk tv (flushNext pend n) a) ++
      [.tree (.addElement (st.headD sec) (flushNext pend n) true)] ++
      opsOfEvents tq tk tv sec (flushNext pend n :: st) false (flushNext pend n + 1) r
  | [], _, _, .stop _ :: _ => []
  | c :: st, pend, n, .stop _ :: r => flushOps c pend n ++ opsOfEvents tq tk tv sec st false (flushNext pend n) r

/-- open elements, pending flag and id counter after the events -/
def endState : List Nat → Bool → Nat → List Event → List Nat × Bool × Nat
  | st, pend, n, [] => (st, pend, n)
  | st, pend, n, .chars s :: r => endState st (pend || !s.isEmpty) n r
  | st, pend, n, .start _ _ :: r => endState (flushNext pend n :: st) false (flushNext pend n + 1) r
  | [], pend, n, .stop _ :: _ => ([], pend, n)
  | _ :: st, pend, n, .stop _ :: r => endState st false (flushNext pend n) r

/-! ### histories compose -/

theorem runD_append (a b : List DOp) : ∀ s, runD s (a ++ b) = runD (runD s a) b := by
  induction a with
  | nil => intro s; rfl
  | cons op r ih => intro s; exact ih _

theorem historyOk_append {a b : List DOp} : ∀ {s}, HistoryOk s a → HistoryOk (runD s a) b → HistoryOk s (a ++ b) := by
  induction a with
  | nil => intro s _ hb; exact hb
  | cons op r ih => intro s ha hb; exact ⟨ha.1, ha.2.1, ih ha.2.2 hb⟩

/-! ### the loader invariant -/

/-- what LoadParser may rely on between two DOM calls: the state is coherent (`Good`); the ids from `n` on are unused
    (`Blank`: nothing refers to a Python object that does not exist yet), the top node is older than the load (`< n0`);
    the section and the open elements are existing elements, the open ones created by this load -/
structure LInv (s : DState) (sec : Nat) (st : List Nat) (n0 n : Nat) : Prop where
  good : Good s
  top_lt : n0 > s.top
  le : n0 ≤ n
  blank : ∀ i, n ≤ i → Blank s.heap i
  open_elem : ∀ p ∈ sec :: st, p < n ∧ (s.heap p).kind = .elem
  open_new : ∀ p ∈ st, n0 ≤ p

/-- the section is attached, and so is everything the load has created so far -/
def LAtt (s : DState) (sec : Nat) (n0 n : Nat) : Prop := Att s sec ∧ ∀ i, n0 ≤ i → i < n → Att s i

theorem LInv.ne_top {s : DState} {sec : Nat} {st : List Nat} {n0 n : Nat} (h : LInv s sec st n0 n) : n ≠ s.top := by
  have := h.top_lt; have := h.le; omega

theorem headD_mem (sec : Nat) (st : List Nat) : st.headD sec ∈ sec :: st := by
  cases st <;> simp

theorem LInv.push {s : DState} {sec : Nat} {st : List Nat} {n0 n : Nat} (h : LInv s sec st n0 (n + 1))
    (hn : n0 ≤ n) (hk : (s.heap n).kind = .elem) : LInv s sec (n :: st) n0 (n + 1) := by
  obtain ⟨hs, ht⟩ := List.forall_mem_cons.mp h.open_elem
  exact ⟨h.good, h.top_lt, h.le, h.blank,
    List.forall_mem_cons.mpr ⟨hs, List.forall_mem_cons.mpr ⟨⟨Nat.lt_succ_self n, hk⟩, ht⟩⟩,
    List.forall_mem_cons.mpr ⟨hn, h.open_new⟩⟩

theorem LInv.pop {s : DState} {sec c : Nat} {st : List Nat} {n0 n : Nat} (h : LInv s sec (c :: st) n0 n) :
    LInv s sec st n0 n := by
  obtain ⟨hs, ht⟩ := List.forall_mem_cons.mp h.open_elem
  exact ⟨h.good, h.top_lt, h.le, h.blank, List.forall_mem_cons.mpr ⟨hs, (List.forall_mem_cons.mp ht).2⟩,
    (List.forall_mem_cons.mp h.open_new).2⟩

/-- another element of the same state as the section; nothing open (used for `skeleton`) -/
theorem LInv.rebase {s : DState} {sec : Nat} {st : List Nat} {n0 n : Nat} (h : LInv s sec st n0 n) {sec' : Nat}
    (hlt : sec' < n) (hk : (s.heap sec').kind = .elem) : LInv s sec' [] n n := by
  refine ⟨h.good, by have := h.top_lt; have := h.le; omega, Nat.le_refl _, h.blank, ?_, ?_⟩
  · intro p hp
    have : p = sec' := by simpa using hp
    subst this; exact ⟨hlt, hk⟩
  · intro p hp; cases hp

/-! ### appending the next new object -/

/-- the new object `n` (created, still detached and childless) is appended to the section or to an open element -/
theorem appendLeaf_inv {s : DState} {sec : Nat} {st : List Nat} {n0 n p : Nat}
    (hL : LInv s sec st n0 n) (hp : p ∈ sec :: st) :
    ∃ s', (DomDoc.appendChild p n).run s = (s', .ok ()) ∧ (¬ AncOrSelf s.heap n p ∧ n ≠ s.top) ∧
      LInv s' sec st n0 (n + 1) ∧ (s'.heap n).kind = (s.heap n).kind ∧ (LAtt s sec n0 n → LAtt s' sec n0 (n + 1)) := by
  obtain ⟨hpn, hkp⟩ := hL.open_elem p hp
  have hb := hL.blank n (Nat.le_refl _)
  have hnp : n ≠ p := by omega
  rcases hrun : (DomDoc.appendChild p n).run s with ⟨s', r⟩
  obtain ⟨rfl, ht, hs, hanc⟩ := appendBlank_view hL.good.1 hkp hb hnp hrun
  have hatt : ∀ y, y ≠ n → (Att s' y ↔ Att s y) := fun y hy => by unfold Att; rw [ht]; exact hanc _ y hy
  have hno : ¬ AncOrSelf s.heap n p := fun ha => hnp (AncOrSelf.eq_of_no_kids hL.good.1 hb.2 ha).symm
  have hG' : Good s' := appendChild_good hL.good hno hL.ne_top hrun (ok_ne_recursionError _)
  have hpar : ∀ y : Nat, (s'.heap y).parent = if y = n then some p else (s.heap y).parent := by
    intro y; rw [hs.parent, app_apply]
  have hkids : ∀ y : Nat, (s'.heap y).kids = if y = p then (s.heap p).kids ++ [n] else (s.heap y).kids := by
    intro y; rw [hs.kids, app_apply]
  have hkind : ∀ y : Nat, (s'.heap y).kind = (s.heap y).kind := by
    intro y; rw [hs.kind, app_apply]
  have hL' : LInv s' sec st n0 (n + 1) :=
    { good := hG'
      top_lt := by rw [ht]; exact hL.top_lt
      le := by have := hL.le; omega
      blank := fun i hi => by
        have hbi := hL.blank i (by omega)
        constructor
        · rw [hpar, if_neg (by omega)]; exact hbi.1
        · rw [hkids, if_neg (by omega)]; exact hbi.2
      open_elem := fun q hq => by
        obtain ⟨a, b⟩ := hL.open_elem q hq
        exact ⟨by omega, by rw [hkind]; exact b⟩
      open_new := hL.open_new }
  refine ⟨s', rfl, ⟨hno, hL.ne_top⟩, hL', hkind n, ?_⟩
  -- what was attached stays so, and `n` hangs under the attached `p`
  rintro ⟨hsec, hall⟩
  have hpa : Att s p := by
    rcases List.mem_cons.mp hp with e | e
    · subst e; exact hsec
    · exact hall p (hL.open_new p e) hpn
  have hsn : sec ≠ n := by have := (hL.open_elem sec (by simp)).1; omega
  refine ⟨(hatt sec hsn).mpr hsec, fun i h1 h2 => ?_⟩
  by_cases hi : i = n
  · subst hi
    exact AncOrSelf.step (by rw [hpar, if_pos rfl]) ((hatt p (Ne.symm hnp)).mpr hpa)
  · exact (hatt i hi).mpr (hall i h1 (by omega))

/-! ### object creation and the attribute store leave the links alone -/

theorem LInv.congr {s s' : DState} {sec : Nat} {st : List Nat} {n0 n : Nat} (hL : LInv s sec st n0 n) (hG : Good s')
    (ht : s'.top = s.top) (hb : ∀ i, n ≤ i → Blank s'.heap i) (hk : ∀ p, p < n → (s'.heap p).kind = (s.heap p).kind)
    (hatt : ∀ x, Att s' x ↔ Att s x) : LInv s' sec st n0 n ∧ (LAtt s sec n0 n → LAtt s' sec n0 n) := by
  refine ⟨⟨hG, by rw [ht]; exact hL.top_lt, hL.le, hb, fun p hp => ?_, hL.open_new⟩, fun ⟨hsec, hall⟩ => ?_⟩
  · obtain ⟨a, b⟩ := hL.open_elem p hp
    exact ⟨a, by rw [hk p a]; exact b⟩
  · exact ⟨(hatt _).mpr hsec, fun i h1 h2 => (hatt _).mpr (hall i h1 h2)⟩

theorem initNode_linv {s : DState} {sec : Nat} {st : List Nat} {n0 n : Nat} (hL : LInv s sec st n0 n) (k : Kind) (qn : Nat) :
    LInv { s with heap := s.heap.set n { kind := k, qn := qn } } sec st n0 n ∧
    (LAtt s sec n0 n → LAtt { s with heap := s.heap.set n { kind := k, qn := qn } } sec n0 n) := by
  have hb := hL.blank n (Nat.le_refl _)
  refine hL.congr (initNode_good hL.good hb hL.ne_top k qn) rfl (fun i hi => blank_initHeap (hL.blank i hi) n k qn) (fun p hp => ?_)
    (att_congr rfl (initHeap_parent hb k qn))
  · show ((s.heap.set n { kind := k, qn := qn }) p).kind = _
    rw [Heap.set_other _ _ _ _ (Nat.ne_of_lt hp)]

theorem setAttrNS_runD (s : DState) (e key v : Nat) :
    (stepD (.tree (.setAttrNS e key (.ok v)))).run s =
      ({ s with heap := setAttrs s.heap e (storeAttr key v (s.heap e).attrs) }, .ok ()) := rfl

theorem setAttrs_linv {s : DState} {sec : Nat} {st : List Nat} {n0 n : Nat} (hL : LInv s sec st n0 n) (e : Nat)
    (v : List (Nat × Nat)) :
    LInv { s with heap := setAttrs s.heap e v } sec st n0 n ∧
    (LAtt s sec n0 n → LAtt { s with heap := setAttrs s.heap e v } sec n0 n) := by
  exact hL.congr (good_of_sameLinks hL.good (sameLinks_setAttrs _ _ _) rfl rfl rfl) rfl
    (fun i hi => by simpa [Blank] using hL.blank i hi) (fun p _ => by simp) (att_congr rfl (fun y => by simp))

/-! ### stretches of the load -/

/-- a stretch of the load from the state `s`: if `s` meets the loader invariant with open elements `st` and counter `n`,
    the operations `ops` are a history of C09 (`HistoryOk`), re-establish the invariant with `st'` and `n'`, and keep
    what was created below an attached section attached -/
def LStep (sec n0 : Nat) (st : List Nat) (n : Nat) (ops : List DOp) (st' : List Nat) (n' : Nat) (s : DState) : Prop :=
  LInv s sec st n0 n →
    HistoryOk s ops ∧ LInv (runD s ops) sec st' n0 n' ∧ (LAtt s sec n0 n → LAtt (runD s ops) sec n0 n')

theorem LStep.nil {sec n0 : Nat} {st : List Nat} {n : Nat} {s : DState} : LStep sec n0 st n [] st n s :=
  fun hL => ⟨trivial, hL, id⟩

theorem LStep.append {sec n0 : Nat} {st st1 st2 : List Nat} {n n1 n2 : Nat} {a b : List DOp} {s : DState}
    (ha : LStep sec n0 st n a st1 n1 s) (hb : LStep sec n0 st1 n1 b st2 n2 (runD s a)) :
    LStep sec n0 st n (a ++ b) st2 n2 s := by
  intro hL
  obtain ⟨a1, a2, a3⟩ := ha hL
  obtain ⟨b1, b2, b3⟩ := hb a2
  rw [runD_append]
  exact ⟨historyOk_append a1 b1, b2, fun hA => b3 (a3 hA)⟩

theorem LStep.one {sec n0 : Nat} {st st' : List Nat} {n n' : Nat} {op : DOp} {s s' : DState}
    (hok : OpOk s op) (hrun : (stepD op).run s = (s', .ok ()))
    (h : LInv s' sec st' n0 n' ∧ (LAtt s sec n0 n → LAtt s' sec n0 n')) : LStep sec n0 st n [op] st' n' s := by
  have hs' : runD s [op] = s' := by
    show ((stepD op).run s).1 = s'
    rw [hrun]
  intro _
  rw [hs']
  exact ⟨⟨hok, by rw [hrun]; exact ok_ne_recursionError _, trivial⟩, h⟩

theorem lstep_newNode {sec n0 : Nat} {st : List Nat} {n : Nat} (k : Kind) (q : Nat) (s : DState) :
    LStep sec n0 st n [.tree (.newNode n k q)] st n s := fun hL =>
  LStep.one (show n ≠ s.top from hL.ne_top) (by rw [newNode_run, if_pos (hL.blank n (Nat.le_refl _))])
    (initNode_linv hL k q) hL

/-- the attribute loop of `Element.__init__` -/
theorem lstep_attrs (tk : QName → Nat) (tv : QName → Str → Nat) (e : Nat) {sec n0 : Nat} {st : List Nat} {n : Nat} :
    ∀ (a : List (QName × Str)) (s : DState), LStep sec n0 st n (attrOps tk tv e a) st n s
  | [], _ => LStep.nil
  | (k, v) :: r, s => LStep.append (a := [.tree (.setAttrNS e (tk k) (.ok (tv k v)))])
      (fun hL => LStep.one trivial (setAttrNS_runD s e (tk k) (tv k v)) (setAttrs_linv hL e _) hL)
      (lstep_attrs tk tv e r _)

theorem attrOps_kind (tk : QName → Nat) (tv : QName → Str → Nat) (e : Nat) :
    ∀ (a : List (QName × Str)) (s : DState) (y : Nat), ((runD s (attrOps tk tv e a)).heap y).kind = (s.heap y).kind
  | [], _, _ => rfl
  | (k, v) :: r, s, y => by
    show ((runD ((stepD (.tree (.setAttrNS e (tk k) (.ok (tv k v))))).run s).1 (attrOps tk tv e r)).heap y).kind = _
    rw [attrOps_kind tk tv e r, setAttrNS_runD]
    simp

/-- `par.addText(content, check_grammar=False)` with a non-empty content -/
theorem lstep_addText {sec n0 : Nat} {st : List Nat} {n p : Nat} (hp : p ∈ sec :: st) (s : DState) :
    LStep sec n0 st n [.tree (.addText p n true true)] st (n + 1) s := by
  intro hL
  obtain ⟨hL1, hA1⟩ := initNode_linv hL .text 0
  obtain ⟨s', hrun, _, hL', _, hA'⟩ := appendLeaf_inv hL1 hp
  have hnp : n ≠ p := by have := (hL.open_elem p hp).1; omega
  refine LStep.one (op := .tree (.addText p n true true)) ⟨hnp, hL.ne_top⟩ ?_ ⟨hL', fun hA => hA' (hA1 hA)⟩ hL
  simp only [stepD]
  rw [run_fresh_bind, if_pos (hL.blank n (Nat.le_refl _)), addText_runD, if_pos rfl, if_pos rfl]
  exact hrun

theorem lstep_flush {sec n0 : Nat} {st : List Nat} {n p : Nat} (hp : p ∈ sec :: st) (pend : Bool) (s : DState) :
    LStep sec n0 st n (flushOps p pend n) st (flushNext pend n) s := by
  cases pend with
  | false => exact LStep.nil
  | true => exact lstep_addText hp s

/-- `e = Element(qname=tag, qattributes=attrdict); par.addElement(e)`: created at the counter, its attributes set,
    attached, and now the innermost open element -/
theorem lstep_element (tk : QName → Nat) (tv : QName → Str → Nat) {sec n0 : Nat} {st : List Nat} {n p : Nat}
    (hp : p ∈ sec :: st) (q : Nat) (a : List (QName × Str)) (s : DState) :
    LStep sec n0 st n ((.tree (.newNode n .elem q) :: attrOps tk tv n a) ++ [.tree (.addElement p n true)])
      (n :: st) (n + 1) s := by
  intro hL
  -- the object with its attributes: still an element when it is attached
  have hnew : LStep sec n0 st n ([.tree (.newNode n .elem q)] ++ attrOps tk tv n a) st n s :=
    (lstep_newNode .elem q s).append (lstep_attrs tk tv n a _)
  obtain ⟨_, c2, _⟩ := hnew hL
  have hk : ((runD s ([.tree (.newNode n .elem q)] ++ attrOps tk tv n a)).heap n).kind = .elem := by
    show ((runD ((stepD (.tree (.newNode n .elem q))).run s).1 (attrOps tk tv n a)).heap n).kind = .elem
    rw [attrOps_kind, newNode_run, if_pos (hL.blank n (Nat.le_refl _))]
    simp
  -- `par.addElement(e)`
  obtain ⟨s', hrun, hop, hL', hkind, hA'⟩ := appendLeaf_inv c2 hp
  refine hnew.append (fun _ => LStep.one (op := .tree (.addElement p n true)) hop ?_
    ⟨hL'.push hL.le (by rw [hkind, hk]), hA'⟩ c2) hL
  simp only [stepD]
  rw [addElement_runD, if_pos rfl]
  exact hrun

/-! ### the whole event stream -/

/-- **C09 × C04 (loader invariant)**: the operations of a load are a history as C09's reachability theorem wants it
    (`HistoryOk`: side conditions met, no RecursionError) and keep the loader invariant; what the load created below an
    attached section is attached -/
theorem load_inv (tq tk : QName → Nat) (tv : QName → Str → Nat) (sec n0 : Nat) :
    ∀ (evs : List Event) (st : List Nat) (pend : Bool) (n : Nat) (s : DState),
      LStep sec n0 st n (opsOfEvents tq tk tv sec st pend n evs) (endState st pend n evs).1 (endState st pend n evs).2.2 s := by
  intro evs
  induction evs with
  | nil => intro st pend n s; exact LStep.nil
  | cons ev r ih =>
    intro st pend n s
    cases ev with
    | chars c => exact ih st (pend || !c.isEmpty) n s
    | start q a =>
      simp only [opsOfEvents, endState]
      rw [List.append_assoc (flushOps _ _ _), List.append_assoc (flushOps _ _ _)]
      exact (lstep_flush (headD_mem sec st) pend s).append
        ((lstep_element tk tv (headD_mem sec st) (tq q) a _).append (ih _ false _ _))
    | stop q =>
      cases st with
      | nil => exact LStep.nil
      | cons c st' =>
        simp only [opsOfEvents, endState]
        exact (lstep_flush (p := c) (by simp) pend s).append (fun hL => ih st' false (flushNext pend n) _ hL.pop)

/-- **C09 × C04 (the loads are histories of C09)**: every operation LoadParser performs is one of the operations C09's
    step theorem quantifies over, with its side conditions met -/
theorem load_historyOk (tq tk : QName → Nat) (tv : QName → Str → Nat) {sec n0 : Nat} {s : DState}
    (hL : LInv s sec [] n0 n0) (evs : List Event) : HistoryOk s (opsOfEvents tq tk tv sec [] false n0 evs) :=
  (load_inv tq tk tv sec n0 evs [] false n0 s hL).1

/-- **C09 (loads)**: after the load the element index lists exactly the attached elements, each once, under its
    qname, and ownerDocument is set exactly on the attached elements — a corollary of C09's `coherent_runD` -/
theorem load_coherent (tq tk : QName → Nat) (tv : QName → Str → Nat) {sec n0 : Nat} {s : DState}
    (hL : LInv s sec [] n0 n0) (evs : List Event) : CohIdx (runD s (opsOfEvents tq tk tv sec [] false n0 evs)) :=
  (coherent_runD hL.good (load_historyOk tq tk tv hL evs)).2.2

/-- **C09 (edits, then a load)**: a document reached from a fresh one by ANY history of C09, then loaded into: still a
    state of `coherent_reachable_partial` (the concatenated history meets `HistoryOk`) -/
theorem load_reachable (tq tk : QName → Nat) (tv : QName → Str → Nat) (q : Nat) (pre : List DOp)
    (hpre : HistoryOk (freshDoc q) pre) {sec n0 : Nat} (hL : LInv (runD (freshDoc q) pre) sec [] n0 n0)
    (evs : List Event) :
    HistoryOk (freshDoc q) (pre ++ opsOfEvents tq tk tv sec [] false n0 evs) ∧
    Good (runD (freshDoc q) (pre ++ opsOfEvents tq tk tv sec [] false n0 evs)) := by
  have h := historyOk_append hpre (load_historyOk tq tk tv hL evs)
  exact ⟨h, coherent_reachable_partial q _ h⟩

/-- **C09 (document-level query after a load)**: `doc.getElementsByType(f)` returns exactly the attached elements of
    that qname, each once -/
theorem load_byType_exact (tq tk : QName → Nat) (tv : QName → Str → Nat) {sec n0 : Nat} {s : DState}
    (hL : LInv s sec [] n0 n0) (evs : List Event) (qn : Nat) {s' : DState} {l : List Nat}
    (hrun : (docByType qn).run (runD s (opsOfEvents tq tk tv sec [] false n0 evs)) = (s', .ok l)) :
    l.Nodup ∧ ∀ x, x ≠ s'.top → (x ∈ l ↔ Att s' x ∧ (s'.heap x).kind = .elem ∧ (s'.heap x).qn = qn) :=
  docByType_exact (coherent_runD hL.good (load_historyOk tq tk tv hL evs)) hrun

/-- **C09 (what was loaded is found)**: below an attached section every node the load created is attached, and every
    element among them is listed in the index under its qname -/
theorem load_loaded_listed (tq tk : QName → Nat) (tv : QName → Str → Nat) {sec n0 : Nat} {s : DState}
    (hL : LInv s sec [] n0 n0) (hsec : Att s sec) (evs : List Event) (x : Nat) (h0 : n0 ≤ x)
    (h1 : x < (endState [] false n0 evs).2.2) :
    let s' := runD s (opsOfEvents tq tk tv sec [] false n0 evs)
    Att s' x ∧ ((s'.heap x).kind = .elem → x ∈ ed s' (s'.heap x).qn) := by
  intro s'
  obtain ⟨_, hL', hA'⟩ := load_inv tq tk tv sec n0 evs [] false n0 s hL
  have hA := hA' ⟨hsec, fun i a b => absurd a (by omega)⟩
  have hx : Att s' x := hA.2 x h0 h1
  refine ⟨hx, fun hk => ?_⟩
  have hne : x ≠ s'.top := by have : n0 > s'.top := hL'.top_lt; omega
  exact (hL'.good.2.2.mem_iff _ x hne).mpr ⟨hx, hk, rfl⟩

/-! ### the document `OpenDocument.__init__` leaves: the hypotheses are satisfiable -/

theorem linv_fresh (q : Nat) : LInv (freshDoc q) 0 [] 1 1 := by
  refine ⟨good_fresh q, ?_, Nat.le_refl _, ?_, ?_, ?_⟩
  · show 1 > (fresh0 q).top
    exact Nat.one_pos
  · intro i _
    exact blank_initHeap (h := Heap.empty) ⟨rfl, rfl⟩ 0 .elem q
  · intro p hp
    have : p = 0 := by simpa using hp
    subst this
    exact ⟨Nat.one_pos, (good_fresh q).2.2.top_elem⟩
  · intro p hp; cases hp

/-- example tokens: style:style, office:styles, office:automatic-styles, meta:generator as DomDoc fixes them -/
def tqEx (q : QName) : Nat :=
  if q = LoadSax.qStyle then QN_STYLE else if q = LoadSax.qStyles then QN_STYLES
  else if q = LoadSax.qAutoStyles then QN_AUTOSTYLES else if q = LoadSax.qGenerator then QN_GENERATOR
  else if q = LoadSax.qMeta then 10 else if q = LoadSax.qScripts then 11 else if q = LoadSax.qFontFace then 12
  else if q = LoadSax.qSettings then 13 else if q = LoadSax.qMaster then 14 else if q = LoadSax.qBody then 15
  else 100 + q.loc.length
def tkEx (k : QName) : Nat :=
  if k = LoadSax.aStyleName then KEY_STYLE_NAME else if k = LoadSax.aTextStyleName then KEY_TEXT_STYLE_NAME else 50
def tvEx (_ : QName) (v : Str) : Nat := v.length

/-- `self.meta = Meta(); self.topnode.addElement(self.meta)` … `self.body = Body(); self.topnode.addElement(self.body)`
    (add_generator=False, as `load` calls the constructor): as events below the top node -/
def secEvents : List Event :=
  [LoadSax.qMeta, LoadSax.qScripts, LoadSax.qFontFace, LoadSax.qSettings, LoadSax.qStyles, LoadSax.qAutoStyles,
    LoadSax.qMaster, LoadSax.qBody].flatMap (fun q => [.start q [], .stop q])

/-- the document as `OpenDocument.__init__` leaves it: top node 0, the sections meta 1, scripts 2, font-face-decls 3,
    settings 4, styles 5, automatic-styles 6, master-styles 7, body 8 -/
def skeleton : DState := runD (freshDoc 9) (opsOfEvents tqEx tkEx tvEx 0 [] false 1 secEvents)

/-- **the hypotheses of the load theorems hold for a new document**, for each of its eight sections, with 9 as the
    first unused id -/
theorem skeleton_linv (sec : Nat) (h1 : 1 ≤ sec) (h8 : sec ≤ 8) : LInv skeleton sec [] 9 9 ∧ Att skeleton sec := by
  obtain ⟨_, hL, hA⟩ := load_inv tqEx tkEx tvEx 0 1 secEvents [] false 1 (freshDoc 9) (linv_fresh 9)
  have he : endState [] false 1 secEvents = ([], false, 9) := by decide
  simp only [he] at hL hA
  have hatt := (hA ⟨AncOrSelf.refl, fun i a b => absurd a (by omega)⟩).2 sec h1 (by omega)
  -- the eight sections are elements: one evaluation of the skeleton
  have hk : ∀ i ∈ List.range' 1 8, (skeleton.heap i).kind = .elem := by decide +kernel
  exact ⟨hL.rebase (by omega) (hk sec (List.mem_range'_1.mpr ⟨h1, by omega⟩)), hatt⟩

/-! ### a concrete load: `<text:p text:style-name="x"><text:span>ab</text:span>cd</text:p>` inside office:body -/

def qP : QName := ⟨LoadSax.TEXTNS, [112]⟩
def qSpan : QName := ⟨LoadSax.TEXTNS, [115, 112, 97, 110]⟩
def exEvents : List Event :=
  [.start qP [(LoadSax.aTextStyleName, [120])], .start qSpan [], .chars [97, 98], .stop qSpan, .chars [99], .chars [100],
   .stop qP]

/-- the DOM calls of this load -/
example : opsOfEvents tqEx tkEx tvEx 8 [] false 9 exEvents =
    [.tree (.newNode 9 .elem 101), .tree (.setAttrNS 9 KEY_TEXT_STYLE_NAME (.ok 1)), .tree (.addElement 8 9 true),
     .tree (.newNode 10 .elem 104), .tree (.addElement 9 10 true),
     .tree (.addText 10 11 true true), .tree (.addText 9 12 true true)] := by rfl

/-- after it: the tree below office:body, the index lists, ownerDocument, and the two queries -/
example :
    let s := runD skeleton (opsOfEvents tqEx tkEx tvEx 8 [] false 9 exEvents)
    (s.heap 8).kids = [9] ∧ (s.heap 9).kids = [10, 12] ∧ (s.heap 10).kids = [11] ∧
    ed s 101 = [9] ∧ ed s 104 = [10] ∧ ed s 15 = [8] ∧ s.owned 9 = true ∧ s.owned 10 = true ∧ s.owned 11 = false ∧
    endState [] false 9 exEvents = ([], false, 13) := by decide +kernel

example : ((docByType 104).run (runD skeleton (opsOfEvents tqEx tkEx tvEx 8 [] false 9 exEvents))).2.toOption = some [10] := by
  decide +kernel

/-! ### refinement: the DOM calls are the construction script of the forest LoadSax builds -/

mutual
/-- the DOM calls that build a node below `par`, ids from `n` on, in document order: the element is created, gets its
    attributes, is attached, then its children are built; a text node is one `addText` -/
def buildN (tq tk : QName → Nat) (tv : QName → Str → Nat) (par n : Nat) : Node → List DOp × Nat
  | .text _ => ([.tree (.addText par n true true)], n + 1)
  | .cdata _ => ([.tree (.addText par n true true)], n + 1)
  | .elem q a kids =>
    ((.tree (.newNode n .elem (tq q)) :: attrOps tk tv n a) ++ [.tree (.addElement par n true)] ++
       (buildF tq tk tv n (n + 1) kids).1, (buildF tq tk tv n (n + 1) kids).2)
def buildF (tq tk : QName → Nat) (tv : QName → Str → Nat) (par n : Nat) : Forest → List DOp × Nat
  | .nil => ([], n)
  | .cons h t =>
    ((buildN tq tk tv par n h).1 ++ (buildF tq tk tv par (buildN tq tk tv par n h).2 t).1,
     (buildF tq tk tv par (buildN tq tk tv par n h).2 t).2)
end

section refinement
variable (tq tk : QName → Nat) (tv : QName → Str → Nat)

theorem buildF_appF (par : Nat) : ∀ (a b : Forest) (n : Nat),
    buildF tq tk tv par n (LoadSax.appF a b) =
      ((buildF tq tk tv par n a).1 ++ (buildF tq tk tv par (buildF tq tk tv par n a).2 b).1,
       (buildF tq tk tv par (buildF tq tk tv par n a).2 b).2)
  | .nil, b, n => by simp [LoadSax.appF, buildF]
  | .cons h t, b, n => by
    simp only [LoadSax.appF, buildF]
    rw [buildF_appF par t b]
    simp

theorem buildF_flushT (par n : Nat) (acc : Str) (f : Forest) :
    buildF tq tk tv par n (flushT acc f) =
      (flushOps par (!acc.isEmpty) n ++ (buildF tq tk tv par (flushNext (!acc.isEmpty) n) f).1,
       (buildF tq tk tv par (flushNext (!acc.isEmpty) n) f).2) := by
  unfold flushT flushOps flushNext
  by_cases h : acc.isEmpty = true
  · simp [h]
  · simp [h, buildF, buildN]

theorem pend_append (acc s : Str) : (!acc.isEmpty || !s.isEmpty) = !(acc ++ s).isEmpty := by
  cases acc <;> cases s <;> simp

/-- **C09 × C04 (the two models of the loader agree on the tree, at the level of DOM calls)**: for the events of ANY
    forest `f`, read with pending character data `acc` below the section or an open element, `opsOfEvents` emits exactly
    the construction script `buildF` of `(mergeK acc f).1` — the forest that LoadSax's `run_forest` (Props/C04) shows
    LoadParser appends to the parent — leaves `(mergeK acc f).2` pending, and goes on with the remaining events.
    `_partial`: what is missing is the read-back from the heap (that the script `buildF F` leaves a subtree whose shape is
    `F`); DomDoc nodes carry no character data, and the attribute values that `build_caches` rewrites during the attach
    (style:name → 'M'+name, text:style-name) are modelled on both sides (`attachHook` / `registerStyle`, `fixStyleRef`) but
    not compared here. -/
theorem load_tree_eq_partial (sec : Nat) : (f : Forest) → (st : List Nat) → (acc : Str) → (n : Nat) → (rest : List Event) →
    opsOfEvents tq tk tv sec st (!acc.isEmpty) n (evF f ++ rest) =
      (buildF tq tk tv (st.headD sec) n (C04.mergeK acc f).1).1 ++
        opsOfEvents tq tk tv sec st (!(C04.mergeK acc f).2.isEmpty)
          (buildF tq tk tv (st.headD sec) n (C04.mergeK acc f).1).2 rest
  | .nil, st, acc, n, rest => by simp [evF, C04.mergeK, buildF]
  | .cons (.text s) t, st, acc, n, rest | .cons (.cdata s) t, st, acc, n, rest => by
    simp only [evF, evN, List.cons_append, List.nil_append, opsOfEvents, C04.mergeK]
    rw [pend_append]
    exact load_tree_eq_partial sec t st (acc ++ s) n rest
  | .cons (.elem q a kids) t, st, acc, n, rest => by
    -- the children are read below the new element (id `flushNext … n`) with nothing pending, up to its end tag; then
    -- the siblings `t`, again with nothing pending, from whatever counter `n2` the children leave
    have ihk := load_tree_eq_partial sec kids (flushNext (!acc.isEmpty) n :: st) [] (flushNext (!acc.isEmpty) n + 1)
      (.stop q :: (evF t ++ rest))
    have iht := fun n2 => load_tree_eq_partial sec t st [] n2 rest
    simp only [List.isEmpty_nil, Bool.not_true, List.headD_cons] at ihk iht
    simp only [evF, evN, List.cons_append, List.append_assoc, List.nil_append, opsOfEvents, C04.mergeK]
    rw [ihk]
    simp only [opsOfEvents]
    rw [iht, buildF_flushT]
    simp only [buildF, buildN, C04.mergeTF_eq [] kids, buildF_appF, buildF_flushT]
    simp [List.append_assoc]

/-- the whole content of a section, nothing pending before it -/
theorem load_tree_eq_section_partial (sec n : Nat) (f : Forest) :
    opsOfEvents tq tk tv sec [] false n (evF f) = (buildF tq tk tv sec n (C04.mergeK [] f).1).1 := by
  have h := load_tree_eq_partial tq tk tv sec f [] [] n []
  simpa [opsOfEvents] using h

/-- **the two models side by side**: under the hypotheses of C04's `run_forest` (inside a section, no style renamed),
    LoadSax's parser appends the forest `(mergeK data f).1` to the parent (`C04.result`), and the DomDoc operations of
    the same events are the construction script of that very forest.  The two halves meet in `f` and in the pending
    character data `ls.data` only: nothing else ties `ls` to `sec`, `st`, `n`. -/
theorem load_models_agree_partial (sec n : Nat) (st : List Nat) (f : Forest) (ls : LoadSax.St)
    (hp : ls.parsing = true) (hsk : ls.skip = 0) (hd : 2 ≤ ls.depth) (hok : C04.ParentOK ls) (hf : ls.fix = [])
    (hnt : ls.spine ≠ [] ∨ ls.root ≠ .sec .fontFace)
    (hfr : C04.fresh ls.names (C04.regAllF (LoadSax.parentQ ls) f) = true) :
    LoadSax.run ls (evF f) = some (C04.result ls f) ∧
    opsOfEvents tq tk tv sec st (!ls.data.isEmpty) n (evF f) =
      (buildF tq tk tv (st.headD sec) n (C04.mergeK ls.data f).1).1 := by
  refine ⟨C04.run_forest f ls hp hsk hd hok hf hnt hfr, ?_⟩
  have h := load_tree_eq_partial tq tk tv sec f st ls.data n []
  simpa [opsOfEvents] using h

end refinement

end OdfModel.Props.C09Load
