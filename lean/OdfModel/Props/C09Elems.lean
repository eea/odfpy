/-
  C09, first layer: the traversal.  `_set_owner`, `rebuild_caches(node)` and `remove_from_caches` all walk the subtree of
  their argument; the model runs them over the list `elems` computes.  `elems_spec`, `elems_nodup`: in a consistent forest
  that list holds exactly the element nodes at or below the argument, each once.  `elByType_eq_filter`: the
  element-level query `getElementsByType` is the filter of the same list.
-/
import OdfModel.DomDoc
import OdfModel.Props.C08
namespace OdfModel.Props.C09
open OdfModel.Dom OdfModel.DomDoc OdfModel.Props.C07 OdfModel.Props.C08
-- the node id; the bare name is ambiguous with `_root_.Id` without this alias (see OdfModel/DomDoc.lean)
export OdfModel.Dom (Id)

/-! ### the traversal `elems` visits exactly the element nodes of the subtree, each once -/

theorem elems_zero (h : Heap) (n : Id) :
    elems h 0 n = if (h n).kind = .elem then none else some [] := by simp [elems]

theorem elems_succ (h : Heap) (f : Nat) (n : Id) :
    elems h (f + 1) n = if (h n).kind = .elem then (elemsL h f (h n).kids).map (fun l => n :: l) else some [] := by
  simp [elems, elemsL]

theorem elemsL_nil (h : Heap) (f : Nat) : elemsL h f [] = some [] := by simp [elemsL, elemsStep]

theorem elemsL_cons (h : Heap) (f : Nat) (k : Id) (r : List Id) :
    elemsL h f (k :: r) = match elems h f k, elemsL h f r with
      | some a, some b => some (a ++ b)
      | _, _ => none := by
  simp only [elemsL, elemsStep]; cases elems h f k <;> cases elemsStep (fun k => elems h f k) r <;> rfl

theorem elems_of_not_elem {h : Heap} {n : Id} (hk : (h n).kind ≠ .elem) (f : Nat) : elems h f n = some [] := by
  cases f <;> simp [elems, hk]

theorem elemsL_cons_some {h : Heap} {f : Nat} {k : Id} {r l : List Id} (hl : elemsL h f (k :: r) = some l) :
    ∃ a b, elems h f k = some a ∧ elemsL h f r = some b ∧ l = a ++ b := by
  rw [elemsL_cons] at hl
  cases ha : elems h f k with
  | none => simp [ha] at hl
  | some a =>
    cases hb : elemsL h f r with
    | none => simp [ha, hb] at hl
    | some b => simp [ha, hb] at hl; exact ⟨a, b, rfl, rfl, hl.symm⟩

/-- membership in the traversal of a list of siblings, given what the traversal of each sibling holds -/
theorem elemsL_spec {h : Heap} {f : Nat} {P : Id → Id → Prop} : ∀ {ks l : List Id}, elemsL h f ks = some l →
    (∀ k lk, elems h f k = some lk → ∀ x, x ∈ lk ↔ P k x) → ∀ x, x ∈ l ↔ ∃ k ∈ ks, P k x := by
  intro ks
  induction ks with
  | nil => intro l hl _ x; rw [elemsL_nil] at hl; cases hl; simp
  | cons k r ih =>
    intro l hl hP x
    obtain ⟨a, b, ha, hb, rfl⟩ := elemsL_cons_some hl
    rw [List.mem_append, hP k a ha x, ih hb hP x]
    simp only [List.mem_cons, exists_eq_or_imp]

theorem elems_cases {h : Heap} {f : Nat} {n : Id} {l : List Id} (hl : elems h f n = some l) :
    ((h n).kind ≠ .elem ∧ l = []) ∨
    ((h n).kind = .elem ∧ ∃ f' l', f = f' + 1 ∧ elemsL h f' (h n).kids = some l' ∧ l = n :: l') := by
  by_cases hk : (h n).kind = .elem
  · right
    cases f with
    | zero => simp [elems_zero, hk] at hl
    | succ f' =>
      rw [elems_succ, if_pos hk] at hl
      cases hl' : elemsL h f' (h n).kids with
      | none => simp [hl'] at hl
      | some l' => simp [hl'] at hl; exact ⟨hk, f', l', rfl, hl', hl.symm⟩
  · rw [elems_of_not_elem hk] at hl; cases hl; exact Or.inl ⟨hk, rfl⟩

/-- **what the three recursions visit**: exactly the element nodes at or below `n` -/
theorem elems_spec {h : Heap} (hI : Inv h) {f : Nat} {n : Id} {l : List Id} (hl : elems h f n = some l) (x : Id) :
    x ∈ l ↔ AncOrSelf h n x ∧ (h x).kind = .elem := by
  induction f using Nat.strongRecOn generalizing n l x with
  | _ f ih =>
    rcases elems_cases hl with ⟨hk, rfl⟩ | ⟨hk, f', l', rfl, hl', rfl⟩
    · refine ⟨fun hx => (by cases hx), fun ⟨ha, hx⟩ => ?_⟩
      -- nothing but a text node itself is below it
      rw [AncOrSelf.eq_of_no_kids hI (hI.childless n hk) ha] at hx; exact absurd hx hk
    · rw [List.mem_cons, elemsL_spec hl' (fun k lk hlk => ih f' (Nat.lt_succ_self _) hlk) x]
      constructor
      · rintro (e | ⟨k, hkm, ha, hke⟩)
        · subst e; exact ⟨AncOrSelf.refl, hk⟩
        · exact ⟨AncOrSelf.trans (AncOrSelf.step ((hI.parent_iff n k).mp hkm) AncOrSelf.refl) ha, hke⟩
      · rintro ⟨ha, hxe⟩
        rcases AncOrSelf.eq_or_below_child ha with e | ⟨k, hkp, hkx⟩
        · exact Or.inl e
        · exact Or.inr ⟨k, (hI.parent_iff n k).mpr hkp, hkx, hxe⟩

/-- the children of `n` one after the other: each traversal is duplicate-free (`hk`), and siblings have disjoint
    subtrees -/
theorem elemsL_nodup {h : Heap} (hI : Inv h) (hA : Acyclic h) {f : Nat} {n : Id}
    (hk : ∀ {k a}, elems h f k = some a → a.Nodup) :
    ∀ {ks l : List Id}, ks.Nodup → (∀ k ∈ ks, (h k).parent = some n) → elemsL h f ks = some l → l.Nodup := by
  intro ks
  induction ks with
  | nil => intro l _ _ hl; rw [elemsL_nil] at hl; cases hl; exact List.nodup_nil
  | cons k r ihr =>
    intro l hnd hp hl
    obtain ⟨a, b, ha, hb, rfl⟩ := elemsL_cons_some hl
    obtain ⟨hkr, hndr⟩ := List.nodup_cons.mp hnd
    obtain ⟨hpk, hpr⟩ := List.forall_mem_cons.mp hp
    refine List.nodup_append.mpr ⟨hk ha, ihr hndr hpr hb, ?_⟩
    -- `x` below `k` and below a later sibling `k'`
    rintro x hxa _ hxb rfl
    obtain ⟨k', hk', ha', _⟩ := (elemsL_spec hb (fun k lk hlk => elems_spec hI hlk) x).mp hxb
    exact AncOrSelf.siblings_disjoint hA hpk (hpr k' hk') (fun e => hkr (e ▸ hk'))
      ((elems_spec hI ha x).mp hxa).1 ha'

/-- in a consistent forest the traversal lists every node once -/
theorem elems_nodup {h : Heap} (hI : Inv h) (hA : Acyclic h) : ∀ {f : Nat} {n : Id} {l : List Id},
    elems h f n = some l → l.Nodup := by
  intro f
  induction f using Nat.strongRecOn with
  | _ f ih =>
    intro n l hl
    rcases elems_cases hl with ⟨_, rfl⟩ | ⟨_, f', l', rfl, hl', rfl⟩
    · exact List.nodup_nil
    · refine List.nodup_cons.mpr ⟨fun hn => ?_, ?_⟩
      · -- `n` is not below one of its children: no cycle
        obtain ⟨k, hkm, ha, _⟩ := (elemsL_spec hl' (fun k lk hlk => elems_spec hI hlk) n).mp hn
        exact AncOrSelf.not_above_parent hA ((hI.parent_iff n k).mp hkm) ha
      · exact elemsL_nodup hI hA (ih f' (Nat.lt_succ_self _)) (hI.nodup n)
          (fun k hk => (hI.parent_iff n k).mp hk) hl'

theorem elems_congr {h h' : Heap} (hk : ∀ y, (h' y).kids = (h y).kids ∧ (h' y).kind = (h y).kind) :
    ∀ f n, elems h' f n = elems h f n := by
  intro f
  induction f with
  | zero => intro n; rw [elems_zero, elems_zero, (hk n).2]
  | succ f ih =>
    intro n
    rw [elems_succ, elems_succ, (hk n).2, (hk n).1]
    unfold elemsL
    rw [funext ih]

theorem elemsUnder_text {h : Heap} {c : Id} (hk : (h c).kind ≠ .elem) : elemsUnder h c = some [] :=
  elems_of_not_elem hk FUEL

/-- the traversal of a childless node stays within the budget (which is not zero) -/
theorem elemsUnder_leaf {h : Heap} {c : Id} (hk : (h c).kids = []) : elemsUnder h c ≠ none := by
  obtain ⟨f, hf⟩ : ∃ f, FUEL = f + 1 := ⟨_, rfl⟩
  rw [elemsUnder, hf, elems_succ, hk, elemsL_nil]
  split <;> simp

/-! ### the element-level query is the filter over the subtree, in document order -/

/-- the loop over the children, given the statement for the element children -/
theorem getByObjL_spec (h : Heap) (q : Nat) (f : Nat) (h1 : ∀ n acc, (h n).kind = .elem →
      getByObj h q f n acc = (elems h f n).map (fun l => acc ++ l.filter (fun x => (h x).qn = q))) :
    ∀ ks acc, getByObjL h q f ks acc = (elemsL h f ks).map (fun l => acc ++ l.filter (fun x => (h x).qn = q)) := by
  intro ks
  induction ks with
  | nil => intro acc; simp [getByObjL, elemsL_nil]
  | cons k r ih =>
    intro acc
    rw [getByObjL, elemsL_cons]
    by_cases hk : (h k).kind = .elem
    · simp only [hk, if_true, h1 k acc hk]
      cases elems h f k with
      | none => simp
      | some a =>
        simp only [Option.map_some]
        rw [ih]
        cases elemsL h f r <;> simp [List.filter_append, List.append_assoc]
    · simp only [hk, if_false, ih acc, elems_of_not_elem hk]
      cases elemsL h f r <;> simp

theorem getByObj_spec (h : Heap) (q : Nat) : ∀ (f : Nat) (n : Id) (acc : List Id), (h n).kind = .elem →
    getByObj h q f n acc = (elems h f n).map (fun l => acc ++ l.filter (fun x => (h x).qn = q)) := by
  intro f
  induction f with
  | zero => intro n acc hk; simp [getByObj, elems_zero, hk]
  | succ f ih =>
    intro n acc hk
    rw [getByObj, getByObjL_spec h q f ih, elems_succ, if_pos hk]
    cases elemsL h f (h n).kids with
    | none => simp
    | some l => by_cases hq : (h n).qn = q <;> simp [hq]

/-- **C09 (element-level query)**: `element.getElementsByType(f)` returns exactly the elements of the
    subtree (the element itself included) whose qname is the one asked for, in document order — for an element `n`
    of any heap (no invariant), also when it fails (deeper than the recursion budget). -/
theorem elByType_eq_filter (h : Heap) (n : Id) (q : Nat) (hk : (h n).kind = .elem) :
    elByType h n q = (elemsUnder h n).map (fun l => l.filter (fun x => (h x).qn = q)) := by
  unfold elByType elemsUnder
  rw [getByObj_spec h q FUEL n [] hk]
  generalize elems h FUEL n = o
  cases o <;> simp

end OdfModel.Props.C09
