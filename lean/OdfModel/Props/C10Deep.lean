/-
  C10 for content nested to ANY depth.

  The theorems of Props/C10 quantify over all trees, so they say nothing special about depth: the model's scan
  (`parseNode` / `parseKids`, structural recursion) reaches a reference wherever it sits.  The real scan is a pair of
  recursive Python methods and lives under the interpreter's recursion limit; "the scan reaches the far end or the save
  does not happen" is what harness/c10.py checks on documents nested 400..1500 levels deep (oracle_deep) and what the
  correspondence compares with this model on the dumped trees.

  Stated here explicitly, as the depth-indexed instance the harness drives: a reference below `n` levels of arbitrary
  elements (each with attributes and siblings of its own) is collected, for every `n`; hence the automatic style it names
  is written, also when the far end names it only through another automatic style.
-/
import OdfModel.Props.C10
namespace OdfModel.Props.C10Deep
open OdfModel OdfModel.Styles OdfModel.Generated.StyleRefs OdfModel.Props.C10

/-- one level of nesting: element name, attributes, the siblings before and after the nested child -/
structure Level where
  name : Nat
  attrs : Attrs
  before : List Node
  after : List Node

/-- `k` below the levels `ls` (outermost first) -/
def nest : List Level → Node → Node
  | [], k => k
  | l :: r, k => .elem l.name l.attrs (l.before ++ [nest r k] ++ l.after)

/-- `nest` on three levels without attributes or siblings, evaluated -/
theorem nest_depth_example : (nest (List.replicate 3 ⟨7, [], [], []⟩) (.text [])) =
    .elem 7 [] [.elem 7 [] [.elem 7 [] [.text []]]] := by
  simp [nest, List.replicate]

/-- what an element refers to, every enclosing element refers to - at every depth -/
theorem refs_nest (C : Cfg) (ls : List Level) (k : Node) (v : Str) (h : v ∈ refsNode C k) :
    v ∈ refsNode C (nest ls k) := by
  induction ls with
  | nil => exact h
  | cons l r ih =>
    simp only [nest, refsNode, List.mem_append]
    exact Or.inr (mem_refsKids_iff.mpr ⟨nest r k, by simp, ih⟩)

/-- the scan of the code reaches the far end of any nesting -/
theorem scan_reaches_nest (C : Cfg) (ls : List Level) (k : Node) (acc : List Str) (v : Str)
    (h : v ∈ refsNode C k) : v ∈ parseNode C (nest ls k) acc :=
  (mem_parseNode C _ acc v).mpr (Or.inr (refs_nest C ls k v h))

/-- **C10 (any depth, content.xml)**: an automatic style named (through any style-reference attribute of the schema)
    by an element that sits below any number of levels of nesting in the body is written to content.xml -/
theorem deep_kept_content (d : StyleDoc) (hw : WellNamed codeCfg.sp d.auto) (ls : List Level) (k e : Node) (v : Str)
    (hk : nest ls k ∈ kidsOf d.body) (hv : v ∈ refsNode (specCfg schemaSingle schemaListTyped) k)
    (he : e ∈ kidsOf d.auto) (hn : styleNameOf e = some v) :
    e ∈ contentKept codeCfg d :=
  closure_kept_content d hw e v he hn (Reach.root (by simp) hk (refs_nest _ ls k v hv))

/-- **C10 (any depth, styles.xml)**: the same below a master page (header, footer, shapes) -/
theorem deep_kept_styles (d : StyleDoc) (hw : WellNamed codeCfg.sp d.auto) (ls : List Level) (k e : Node) (v : Str)
    (hk : nest ls k ∈ kidsOf d.master) (hv : v ∈ refsNode (specCfg schemaSingle schemaListTyped) k)
    (he : e ∈ kidsOf d.auto) (hn : styleNameOf e = some v) :
    e ∈ stylesKept codeCfg d :=
  closure_kept_styles d hw e v he hn (Reach.root (by simp) hk (refs_nest _ ls k v hv))

/-- **C10 (any depth, through another automatic style)**: the far end names `s`, the automatic style `nest ms j` called `s`
    names `v` (`j` at any depth inside it): the automatic style called `v` is written to content.xml too -/
theorem deep_chain_kept_content (d : StyleDoc) (hw : WellNamed codeCfg.sp d.auto) (ls ms : List Level) (k j e : Node) (s v : Str)
    (hk : nest ls k ∈ kidsOf d.body) (hs : s ∈ refsNode (specCfg schemaSingle schemaListTyped) k)
    (hm : nest ms j ∈ kidsOf d.auto) (hms : styleNameOf (nest ms j) = some s)
    (hv : v ∈ refsNode (specCfg schemaSingle schemaListTyped) j)
    (he : e ∈ kidsOf d.auto) (hn : styleNameOf e = some v) :
    e ∈ contentKept codeCfg d :=
  closure_kept_content d hw e v he hn
    (Reach.step (Reach.root (by simp) hk (refs_nest _ ls k s hs)) hm hms (refs_nest _ ms j v hv))

end OdfModel.Props.C10Deep
