/-
  Property C16 — a reference returned by `addObject` names the folder in which `save` stores the object.
  About `OdfModel.Pkg.step/run` (model of `addObject`), `save` and `load`, odfpy as of d51bb64 (`save` stores every
  sub-document under its `folder` attribute, `addObject` returns "." + that attribute); tied to odf/opendocument.py by
  the correspondence run of harness/c16.py (attachment histories and loaded packages through the real library and drv_pkg).
  The statement for every history (`RefsResolve`) is false (`not_refsResolve`, KF-C16-2: a reference handed out before the
  parent is attached goes stale); it is proved for histories that attach parents first (`ref_names_folder_partial`) and,
  without hypothesis, for loaded packages (`reload_keeps_refs`, `load_carries_files`, `load_carries_pictures`).
-/
import OdfModel.Pkg
import OdfModel.Props.C03
namespace OdfModel.Props.C16
open OdfModel OdfModel.Pkg

/-- the sub-documents of a sub-document are sub-documents -/
theorem objects_trans (L : Nat) (F : Str) (d : Doc) : ∀ q ∈ objects L F d, ∀ r ∈ objectsK L q.2.children, r ∈ objectsK L d.children := by
  intro q hq r hr
  rw [objects_head] at hq
  rcases List.mem_cons.mp hq with rfl | hq
  · exact hr
  · exact objectsK_trans L _ q hq r hr

/-- a `folder` attribute of an attached document: begins with "/" -/
def Slashy (f : Str) : Prop := ∃ G, f = 47 :: G

/-- `L'` still has every object (id, media type, folder attribute) that `L` has -/
def Sub (L L' : List (Str × Doc)) : Prop :=
  ∀ q ∈ L, ∃ q' ∈ L', q'.2.id = q.2.id ∧ q'.2.mimetype = q.2.mimetype ∧ q'.2.folder = q.2.folder

/-- `L` holds the object `c` with the folder attribute `f` -/
def New (c : Doc) (f : Str) (L : List (Str × Doc)) : Prop :=
  ∃ q ∈ L, q.2.id = c.id ∧ q.2.mimetype = c.mimetype ∧ q.2.folder = f

theorem setFolder_fields (f : Str) (c : Doc) :
    (setFolder f c).id = c.id ∧ (setFolder f c).mimetype = c.mimetype ∧ (setFolder f c).folder = f := by
  cases c with
  | mk id mt hs pics th ex fo kids => simp [setFolder]

mutual
/-- after `_setFolder(f)` every document of the moved subtree has a folder that begins with `f` -/
theorem setFolder_prefix (L : Nat) (F f : Str) (c : Doc) : ∀ q ∈ objects L F (setFolder f c), f <+: q.2.folder := by
  cases c with
  | mk id mt hs pics th ex fo kids =>
    rw [setFolder, objects]
    exact List.forall_mem_cons.mpr ⟨List.prefix_refl _, setFolderKids_prefix L f fo.length kids⟩
theorem setFolderKids_prefix (L : Nat) (f : Str) (n : Nat) (ds : List Doc) :
    ∀ q ∈ objectsK L (setFolderKids f n ds), f <+: q.2.folder := by
  cases ds with
  | nil => exact fun _ hq => nomatch hq
  | cons c cs =>
    rw [setFolderKids, objectsK]
    exact List.forall_mem_append.mpr ⟨fun q hq => (List.prefix_append f _).trans (setFolder_prefix L _ _ c q hq),
      setFolderKids_prefix L f n cs⟩
end

theorem slashy_of_prefix {f g : Str} (hf : Slashy f) (h : f <+: g) : Slashy g := by
  obtain ⟨G, rfl⟩ := hf
  obtain ⟨t, rfl⟩ := h
  exact ⟨G ++ t, rfl⟩

/-! ### addObject keeps what is attached and adds the new object where its reference says

"Everything below a document" is `objectsK 0 kids` throughout: only the documents `q.2` are read, the offset `0` (which
decides the storage folders `q.1`) is arbitrary. -/

theorem Sub.refl (L : List (Str × Doc)) : Sub L L := fun q hq => ⟨q, hq, rfl, rfl, rfl⟩

theorem Sub.cons {d d' : Doc} {ds ds' : List Doc} (hid : d'.id = d.id) (hmt : d'.mimetype = d.mimetype)
    (hfo : d'.folder = d.folder) (hk : Sub (objectsK 0 d.children) (objectsK 0 d'.children))
    (hr : Sub (objectsK 0 ds) (objectsK 0 ds')) : Sub (objectsK 0 (d :: ds)) (objectsK 0 (d' :: ds')) :=
  forall_objectsK_cons.mpr ⟨⟨_, mem_objectsK_cons.mpr (Or.inl rfl), hid, hmt, hfo⟩,
    fun q hq => (hk q hq).imp fun _ h => ⟨mem_objectsK_cons.mpr (Or.inr (Or.inl h.1)), h.2⟩,
    fun q hq => (hr q hq).imp fun _ h => ⟨mem_objectsK_cons.mpr (Or.inr (Or.inr h.1)), h.2⟩⟩

mutual
/-- a successful `addObject` somewhere in the tree `t`: `t` keeps id, media type and folder, everything below is still
    there (`Sub`), the new object is there under the returned folder `f` (`New`), and `f` and all folders below begin
    with "/" — given (`hroot`, `hkids`) that those there already did -/
theorem attach_ok (p : Nat) (c : Doc) (name : Option Str) (t t' : Doc) (f : Str)
    (h : attachIn p c name t = .ok t' f) (hroot : t.folder = [] ∨ Slashy t.folder)
    (hkids : ∀ q ∈ objectsK 0 t.children, Slashy q.2.folder) :
    t'.id = t.id ∧ t'.mimetype = t.mimetype ∧ t'.folder = t.folder
      ∧ Sub (objectsK 0 t.children) (objectsK 0 t'.children) ∧ New c f (objectsK 0 t'.children)
      ∧ Slashy f ∧ ∀ q ∈ objectsK 0 t'.children, Slashy q.2.folder := by
  cases t with
  | mk id mt hs pics th ex fo kids =>
    rw [attachIn] at h
    split at h
    · split at h
      · cases h  -- valueError
      · next n _ =>
        cases h
        have hf : Slashy (fo ++ sSlash ++ n) := by
          rcases hroot with h0 | ⟨G, hG⟩
          · simp only at h0; subst h0; exact ⟨n, rfl⟩
          · simp only at hG; subst hG; exact ⟨G ++ sSlash ++ n, by simp⟩
        -- the objects below are the old ones, then the moved child and everything below it
        refine ⟨rfl, rfl, rfl, ?_⟩
        simp only [objectsK_snoc]
        refine ⟨fun q hq => ⟨q, List.mem_append_left _ hq, rfl, rfl, rfl⟩,
          ⟨_, List.mem_append_right _ List.mem_cons_self, setFolder_fields _ c⟩, hf, fun q hq => ?_⟩
        rw [← objects_head] at hq
        exact (List.mem_append.mp hq).elim (hkids q) fun hq => slashy_of_prefix hf (setFolder_prefix 0 _ _ c q hq)
    · split at h
      · next kids' _ hk => cases h; exact ⟨rfl, rfl, rfl, attach_okK p c name kids kids' _ hk hkids⟩
      · cases h  -- valueError
      · cases h  -- notFound
theorem attach_okK (p : Nat) (c : Doc) (name : Option Str) (ds ds' : List Doc) (f : Str)
    (h : attachInK p c name ds = .ok ds' f) (hkids : ∀ q ∈ objectsK 0 ds, Slashy q.2.folder) :
    Sub (objectsK 0 ds) (objectsK 0 ds') ∧ New c f (objectsK 0 ds') ∧ Slashy f
      ∧ ∀ q ∈ objectsK 0 ds', Slashy q.2.folder := by
  cases ds with
  | nil => cases h
  | cons d rest =>
    obtain ⟨hd, hdk, hrest⟩ := forall_objectsK_cons.mp hkids
    rw [attachInK] at h
    split at h
    · next d' _ h1 =>
      cases h
      -- the parent is `d` or below it: `d` keeps its id, media type and folder, the rest of the list is untouched
      obtain ⟨hid, hmt, hfo, hsub, ⟨q, hq, e⟩, hf, hall⟩ := attach_ok p c name d d' f h1 (Or.inr hd) hdk
      exact ⟨.cons hid hmt hfo hsub (.refl _), ⟨q, mem_objectsK_cons.mpr (Or.inr (Or.inl hq)), e⟩, hf,
        forall_objectsK_cons.mpr ⟨hfo ▸ hd, hall, hrest⟩⟩
    · cases h  -- valueError
    · split at h
      · next rest' _ h2 =>
        cases h
        -- the parent is further down the list
        obtain ⟨hsub, ⟨q, hq, e⟩, hf, hall⟩ := attach_okK p c name rest rest' f h2 hrest
        exact ⟨.cons rfl rfl rfl (.refl _) hsub, ⟨q, mem_objectsK_cons.mpr (Or.inr (Or.inr hq)), e⟩, hf,
          forall_objectsK_cons.mpr ⟨hd, hdk, hall⟩⟩
      · cases h  -- valueError
      · cases h  -- notFound
end

mutual
/-- a parent that is in the tree is found -/
theorem hasId_attach (p : Nat) (c : Doc) (n : Option Str) (t : Doc) (h : hasId p t = true) :
    attachIn p c n t ≠ .notFound := by
  cases t with
  | mk id mt hs pics th ex fo kids =>
    rw [hasId, Bool.or_eq_true, beq_iff_eq] at h
    rw [attachIn]
    split
    · split <;> nofun
    · next hid =>
      have hk := hasId_attachK p c n kids (h.resolve_left hid)
      split
      · nofun
      · nofun
      · next h2 => exact absurd h2 hk
theorem hasId_attachK (p : Nat) (c : Doc) (n : Option Str) (ds : List Doc) (h : hasIdK p ds = true) :
    attachInK p c n ds ≠ .notFound := by
  cases ds with
  | nil => cases h
  | cons d rest =>
    rw [hasIdK, Bool.or_eq_true] at h
    rw [attachInK]
    split
    · nofun
    · nofun
    · next h1 =>
      have hr := hasId_attachK p c n rest (h.resolve_left fun hd => hasId_attach p c n d hd h1)
      split
      · nofun
      · nofun
      · next h2 => exact absurd h2 hr
end

/-! ### the theorem for histories that attach parents first -/

/-- the saved document is a top-level document, everything below it has a folder beginning with "/", and every
    reference returned so far is "." + the `folder` attribute of its object, which hangs under the root -/
def Inv (h : Hist) : Prop :=
  h.root.folder = [] ∧ (∀ q ∈ objectsK 0 h.root.children, Slashy q.2.folder) ∧
  ∀ x ∈ h.refs, ∃ q ∈ objectsK 0 h.root.children, q.2.id = x.1 ∧ q.2.mimetype = x.2.1 ∧ x.2.2 = 46 :: q.2.folder

theorem step_inv (h h' : Hist) (op : Op) (hinv : Inv h) (hpar : hasId op.parent h.root = true)
    (hstep : step h op = .ok h') : Inv h' := by
  rw [step] at hstep
  split at hstep
  · cases hstep
  split at hstep
  · cases hstep
  next c _ =>
  split at hstep
  · next root' f ha =>
    cases hstep
    obtain ⟨_, _, hfo, hsub, hnew, _, hall⟩ := attach_ok op.parent c op.name h.root root' f ha (Or.inl hinv.1) hinv.2.1
    refine ⟨hfo.trans hinv.1, hall, fun x hx => ?_⟩
    rcases List.mem_append.mp hx with hx | hx
    · obtain ⟨q, hq, e1, e2, e3⟩ := hinv.2.2 x hx
      obtain ⟨q', hq', f1, f2, f3⟩ := hsub q hq
      exact ⟨q', hq', f1.trans e1, f2.trans e2, f3 ▸ e3⟩
    · cases List.mem_singleton.mp hx
      obtain ⟨q, hq, e1, e2, e3⟩ := hnew
      exact ⟨q, hq, e1, e2, e3 ▸ rfl⟩
  · cases hstep
  · next ha => exact absurd ha (hasId_attach op.parent c op.name h.root hpar)

theorem run_inv : ∀ (ops : List Op) (h h' : Hist), Inv h → parentsFirst h ops = true → run h ops = some h' → Inv h' := by
  intro ops h h' hinv hord hr
  fun_induction run h ops with
  | case1 h => cases hr; exact hinv
  | case2 h op ops h1 hs ih =>
    simp only [parentsFirst, hs, Bool.and_eq_true] at hord
    exact ih (step_inv h h1 op hinv hord.1 hs) hord.2 hr
  | case3 h op ops hs ih =>
    -- a refused call changes nothing
    simp only [parentsFirst, hs, Bool.and_eq_true] at hord
    exact ih hinv hord.2 hr
  | case4 => cases hr

/-- the reference "./G" resolves for every sub-document that `save` stores in "G/" -/
theorem refResolves_object (d : Doc) (q : Str × Doc) (hq : q ∈ objectsK d.folder.length d.children) (G : Str)
    (hG : q.1 = G ++ sSlash) : refResolves (save d) (46 :: 47 :: G) q.2.id q.2.mimetype = true := by
  have hparts := (C03.parts_present d q (by rw [objects_head]; exact List.mem_cons_of_mem _ hq)).1
  rw [hG] at hparts
  -- content.xml and styles.xml are the second and the first member of `ownXmlZ`
  exact refResolves_iff.mpr ⟨rfl, ⟨_, hparts _ (List.mem_append_left _ (List.mem_cons_of_mem _ List.mem_cons_self)), rfl, rfl⟩,
    ⟨_, hparts _ (List.mem_append_left _ List.mem_cons_self), rfl, rfl⟩,
    _, hG ▸ (C03.root_and_object_mediatypes d).2 q hq, rfl, rfl⟩

theorem resolves_of_inv (h : Hist) (hinv : Inv h) :
    ∀ x ∈ h.refs, refResolves (save h.root) x.2.2 x.1 x.2.1 = true := by
  intro x hx
  obtain ⟨q, hq, e1, e2, e3⟩ := hinv.2.2 x hx
  obtain ⟨G, hG⟩ := hinv.2.1 q hq
  rw [e3, hG, ← e1, ← e2]
  refine refResolves_object h.root q (by rw [hinv.1]; exact hq) G ?_
  rw [objectsK_fst 0 _ q hq, stor, hG]; rfl

/-- the full-strength statement: for EVERY attachment history, every returned reference resolves -/
def RefsResolve : Prop :=
  ∀ (h0 : Hist) (ops : List Op) (h : Hist), Inv h0 → run h0 ops = some h →
    ∀ x ∈ h.refs, refResolves (save h.root) x.2.2 x.1 x.2.1 = true

/-- **C16 (`ref_names_folder`, proved part)**: start from a document whose references so far are good (e.g. a
    fresh document: `inv_fresh`).  For every attachment history in which every parent hangs under the saved
    document at the time it gets a child (`parentsFirst h0 ops`, decidable) — default names and explicit names
    alike, refused duplicates skipped, children that already carry objects of their own, any nesting depth —
    every reference returned by addObject is "./" ++ G where the folder "G/" holds, in the saved package,
    content.xml and styles.xml of exactly that object, and the manifest declares "G/" with that object's
    media type. -/
theorem ref_names_folder_partial (h0 : Hist) (ops : List Op) (h : Hist) (hinit : Inv h0)
    (hord : parentsFirst h0 ops = true) (hrun : run h0 ops = some h) :
    ∀ x ∈ h.refs, refResolves (save h.root) x.2.2 x.1 x.2.1 = true :=
  resolves_of_inv h (run_inv ops h0 h hinit hord hrun)

theorem inv_fresh (id : Nat) (mt : Str) (hs : Bool) (pics : List Pic) (th : Option Thumb) (ex : List Extra)
    (pool : List Doc) : Inv ⟨⟨id, mt, hs, pics, th, ex, [], []⟩, pool, []⟩ :=
  ⟨rfl, fun _ hq => (nomatch hq), fun _ hx => (nomatch hx)⟩

/-- a refused `addObject` (ValueError) changes nothing: the history goes on from the same state -/
theorem valueError_atomic (h : Hist) (op : Op) (ops : List Op) (hs : step h op = .valueError) :
    run h (op :: ops) = run h ops := by
  simp [run, hs]

/-! ### samples and the remaining counter-example (replayed on the real library by harness/c16.py) -/

def leaf (id : Nat) (mt : Str) : Doc := ⟨id, mt, false, [], none, [], [], []⟩
/-- `application/x-a`, `application/x-b` stand-ins: only their being different matters -/
def mtA : Str := [97]
def mtB : Str := [98]

/-- all references of a finished history resolve -/
def allResolve (h : Hist) : Bool := h.refs.all (fun x => refResolves (save h.root) x.2.2 x.1 x.2.1)

def hasMember (o : Out) (n : Str) : Bool := o.zip.any (fun e => e.name == n)

/-- "MyObj" -/
def nMyObj : Str := [77, 121, 79, 98, 106]

/-- the hypothesis is satisfiable, with explicit names: root ← 1 "MyObj"; root ← 2 "/MyObj" is refused (the
    leading "/" is ignored, the name is taken) and attaches nothing; root ← 3 "Object 2"; root ← 4 gets the
    default "Object 3"; 1 ← 2 default "Object 1" below "MyObj" -/
theorem explicit_names_sample :
    let h0 : Hist := ⟨leaf 0 mtA, [leaf 1 mtB, leaf 2 mtA, leaf 3 mtB, leaf 4 mtA], []⟩
    let ops : List Op := [⟨0, 1, some nMyObj⟩, ⟨0, 2, some (47 :: nMyObj)⟩, ⟨0, 3, some (sObjectSp ++ [50])⟩, ⟨0, 4, none⟩, ⟨1, 2, none⟩]
    parentsFirst h0 ops = true ∧
    (run h0 ops).map (fun h => (h.refs.map (fun x => (x.1, x.2.2)), allResolve h))
      = some ([(1, [46, 47] ++ nMyObj), (3, [46, 47] ++ sObjectSp ++ [50]), (4, [46, 47] ++ sObjectSp ++ [51]),
               (2, [46, 47] ++ nMyObj ++ [47] ++ sObjectSp ++ [49])], true) := by
  decide +kernel

/-- (KF-C16-9, odfpy as of d51bb64) a document that is already attached, or the parent itself, is
    refused: nothing changes, the one reference handed out resolves -/
theorem attached_twice_refused :
    let h0 : Hist := ⟨leaf 0 mtA, [leaf 1 mtB, leaf 2 mtA], []⟩
    let ops : List Op := [⟨0, 1, none⟩, ⟨0, 1, none⟩, ⟨2, 1, none⟩, ⟨2, 2, none⟩]
    (run h0 ops).map (fun h => (h.refs.map (·.2.2), h.root.children.length, h.pool.map (·.children.length), allResolve h))
      = some ([[46, 47, 79, 98, 106, 101, 99, 116, 32, 49]], 1, [0], true) := by
  decide +kernel

/-- **finding KF-C16-2** (`sig=child-attached-before-parent`): `o1.addObject(o2)` while `o1` is not yet
    attached returns "./Object 1" (o1.folder is still ""), then `d.addObject(o1)` returns "./Object 1" as
    well and moves o2 to "/Object 1/Object 1": save stores o2 in "Object 1/Object 1/", the string handed out
    first is stale. -/
theorem finding_child_before_parent :
    let h0 : Hist := ⟨leaf 0 mtA, [leaf 1 mtB, leaf 2 mtA], []⟩
    let ops : List Op := [⟨1, 2, none⟩, ⟨0, 1, none⟩]
    (run h0 ops).map (fun h => (h.refs.map (·.2.2), parentsFirst h0 ops, allResolve h,
        hasMember (save h.root) (objPrefix 1 ++ objPrefix 1 ++ sContent)))
    = some ([[46, 47, 79, 98, 106, 101, 99, 116, 32, 49], [46, 47, 79, 98, 106, 101, 99, 116, 32, 49]], false, false, true) := by
  decide +kernel

theorem not_refsResolve : ¬ RefsResolve := by
  intro h
  obtain ⟨hh, hr, e⟩ := Option.map_eq_some_iff.mp finding_child_before_parent
  have : allResolve hh = true := List.all_eq_true.mpr (h _ _ hh (inv_fresh 0 mtA false [] none [] _) hr)
  simp only [Prod.mk.injEq] at e
  cases this.symm.trans e.2.2.1

/-! ### load, then save (over `Pkg.load_tree` and `Pkg.dispatched`) -/

/-- **C16 (`reload_keeps_refs`, full strength)**: for every package that loads, and every folder `Q` that
    `load` recognises as a sub-document — any chain of listed "Object <digits>/" folders: any numbering, any
    number of digits, any nesting depth, wherever its entries stand in the manifest — the reference
    "./Object …" (= "." + the folder attribute `load` gives it) names, after save, the folder that holds
    content.xml and styles.xml of the document loaded from `Q`, declared with the media type the manifest gave `Q`. -/
theorem reload_keeps_refs (p : Package) (d : Doc) (hl : load p = some d) :
    ∀ x ∈ allPairs ((manifestlist p.manifest).map (·.1)),
      refResolves (save d) (46 :: folderOfPath x.2) (((manifestlist p.manifest).map (·.1)).idxOf x.2 + 1)
        ((((manifestlist p.manifest).find? (fun e => e.1 == x.2)).map (·.2)).getD []) = true := by
  intro x hx
  obtain ⟨hfo, _, _, hsub⟩ := load_tree p d hl _ _ rfl rfl
  obtain ⟨m, hm⟩ := hsub x hx
  obtain ⟨Q', hQ'⟩ := allPairs_slash _ x hx
  have := refResolves_object d _ (by rw [hfo]; exact hm) Q' hQ'
  rwa [buildDoc_id, buildDoc_mimetype, ← folderOfPath_slash, ← hQ'] at this

/-- **C16 (other files travel — `load_carries_files`, full strength)**: for every package that loads, every
    manifest entry that `load` does not interpret (not a picture, the thumbnail, a parsed part, or one of the
    entries `save` regenerates) — at the top level or below a sub-document folder of any depth, e.g.
    "Object 1/meta.xml", "Object 12345/Object 1/Configurations2/menu.xml" — is, after save, listed under the
    same path with the same media type and, unless it is a directory name, present as a member with exactly the
    bytes the source held; META-INF/documentsignatures.xml excepted. -/
theorem load_carries_files (p : Package) (d : Doc) (hl : load p = some d) (e : Str × Str)
    (he : e ∈ manifestlist p.manifest)
    (hk : isKept (chainOf ((manifestlist p.manifest).map (·.1)) e.1) e = true)
    (hs : e.1.drop (chainOf ((manifestlist p.manifest).map (·.1)) e.1).length ≠ sDocSig) :
    (∃ fl, (⟨e.1, e.2, fl⟩ : ME) ∈ (save d).man) ∧
    ((e.1.drop (chainOf ((manifestlist p.manifest).map (·.1)) e.1).length).getLast? ≠ some 47 →
      ∃ b, zread p.members e.1 = some b ∧ (⟨e.1, .deflated, [], .bytes b⟩ : ZE) ∈ (save d).zip) := by
  have hread := (load_some p d hl).1 e he
  generalize hP : chainOf ((manifestlist p.manifest).map (·.1)) e.1 = P at hk hs hread ⊢
  obtain ⟨hent, o, hobj, _, hex⟩ := dispatched p d hl _ _ rfl rfl e he P hP
  have hx : toExtra p P e ∈ o.extras := by
    rw [hex]; exact mem_extrasAt.mpr ⟨e, hent, hk, rfl⟩
  obtain ⟨⟨fl, h1⟩, h2⟩ := C03.extras_present d (P, o) hobj (toExtra p P e) hx hs
  have hpath : P ++ (toExtra p P e).filename = e.1 := (entry_key hent).symm
  rw [hpath] at h1 h2
  refine ⟨⟨fl, h1⟩, fun hne => ?_⟩
  obtain ⟨b, hz⟩ := Option.isSome_iff_exists.mp (hread (C03.needsRead_kept (hP ▸ hk) (hP ▸ hne)))
  exact ⟨b, hz, h2 b (by simp [toExtra, hne, hz])⟩

/-- **C16 (pictures travel — `load_carries_pictures`, full strength)**: every "Pictures/…" entry of the package, at
    the top level or below a sub-document folder of any depth, is after load + save a member under the same
    path, stored, with exactly the bytes the source held, listed with the same media type. -/
theorem load_carries_pictures (p : Package) (d : Doc) (hl : load p = some d) (e : Str × Str)
    (he : e ∈ manifestlist p.manifest)
    (hp : isPicturePath (e.1.drop (chainOf ((manifestlist p.manifest).map (·.1)) e.1).length) = true) :
    ∃ b, zread p.members e.1 = some b ∧ (⟨e.1, .stored, [], .bytes b⟩ : ZE) ∈ (save d).zip
      ∧ (⟨e.1, e.2, false⟩ : ME) ∈ (save d).man := by
  obtain ⟨b, hz⟩ := Option.isSome_iff_exists.mp ((load_some p d hl).1 e he (by simp [needsRead, hp]))
  generalize hP : chainOf ((manifestlist p.manifest).map (·.1)) e.1 = P at hp
  obtain ⟨hent, o, hobj, hpics, _⟩ := dispatched p d hl _ _ rfl rfl e he P hP
  have hpic : (⟨e.1.drop P.length, .image b, e.2⟩ : Pic) ∈ o.pictures := by
    rw [hpics, picsAt_eq (manifestlist_nodup _)]
    exact List.mem_map.mpr ⟨e, List.mem_filter.mpr ⟨hent, hp⟩, by simp [hz]⟩
  have := C03.pictures_present d (P, o) hobj _ hpic
  rw [← entry_key hent] at this
  exact ⟨b, hz, this⟩

/-- the three travel theorems applied: a package with "Object 7/" listed after one of its files, holding a picture,
    a file, a meta.xml of its own and an object of its own comes back with every one of these members in place -/
theorem reload_sample :
    (load C03.samplePackage).map (fun d =>
      hasMember (save d) (objPrefix 7 ++ sContent) && hasMember (save d) (objPrefix 7 ++ sPictures ++ [98])
       && hasMember (save d) (objPrefix 7 ++ [120]) && hasMember (save d) (objPrefix 7 ++ sMeta)
       && hasMember (save d) (objPrefix 7 ++ objPrefix 1 ++ sContent) && hasMember (save d) (objPrefix 5 ++ [121])
       && refResolves (save d) ([46] ++ (sSlash ++ objPrefix 7 ++ objPrefix 1).dropLast) 12 sOdt)
      = some true := by
  decide +kernel

end OdfModel.Props.C16
