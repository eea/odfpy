/-
  Property C11 — loading keeps style references right when content.xml and styles.xml reuse a style name.

  Theorems about `OdfModel.StyleClash` (model of the load order, `__register_stylename`, the rewrite in
  `build_caches`, the single automatic-styles container, and — through `OdfModel.Styles` — the selection of
  automatic styles on save).  Tie: the correspondence run of harness/c11.py (drv_clash) on the complete matrix
  of synthetic packages, and harness/translate_styles.py for the tables.

  Full statement (`ResolvePreserved`):
      ∀ pkg site,  resolveAfter pkg site = resolveBefore pkg site   and   resolveMem pkg site = resolveBefore pkg site
  read as: a site that resolved to the definition marked `m` in the source package resolves to `m` in the loaded
  document and in the package saved from it (`Preserved`; a reference that dangled in the source is not constrained —
  `equality_form_too_strong` shows why the literal equality is not the property).  The code does NOT satisfy it: the
  `finding_*` theorems are kernel-checked counter-examples for classes of `known-findings/C11.txt` (the `lean=` field of
  a line names its theorem; `master_clash_not_preserved` has nine master-page cells at once).  What is proved
  is `resolve_preserved_partial`: the statement for the decidable classes `Handled` (packages) and `HandledSite`
  (sites) of OdfModel.StyleClash.
-/
import OdfModel.StyleClash
import OdfModel.Props.C10
namespace OdfModel.Props.C11
open OdfModel OdfModel.Styles OdfModel.StyleClash OdfModel.Generated.StyleRefs
open OdfModel.Props.C10 (final mem_final_iff mem_ownRefs usedAuto_filter)

/-! ### The property -/

/-- in the loaded document the site still resolves to the definition it resolved to in the source -/
def PreservedMem (p : Pkg) (s : Site) : Prop :=
  ∀ m, resolveBefore p s = some m → resolveMem p s = some m

/-- ... and in the package saved from it (a reference inside an automatic style that is not written to that
    part any more has gone with it: C10 says which are written) -/
def PreservedSaved (p : Pkg) (s : Site) : Prop :=
  ∀ m, resolveBefore p s = some m → (siteRef (saveLoad p) s).isSome = true → resolveAfter p s = some m

def Preserved (p : Pkg) (s : Site) : Prop := PreservedMem p s ∧ PreservedSaved p s

/-- **C11, full statement** (`resolve_preserved`): every reference site of every package keeps its
    definition.  NOT a theorem for the code as it is — see `resolve_preserved_fails`. -/
def ResolvePreserved (p : Pkg) : Prop := ∀ s, Preserved p s

instance (p : Pkg) (s : Site) : Decidable (PreservedMem p s) :=
  inferInstanceAs (Decidable (∀ m ∈ resolveBefore p s, resolveMem p s = some m))

instance (p : Pkg) (s : Site) : Decidable (PreservedSaved p s) :=
  inferInstanceAs (Decidable
    (∀ m ∈ resolveBefore p s, (siteRef (saveLoad p) s).isSome = true → resolveAfter p s = some m))

instance (p : Pkg) (s : Site) : Decidable (Preserved p s) := by unfold Preserved; infer_instance

/-! ### Counter-examples (the cells of the matrix the code does not handle) -/

/-- class codes as the harness assigns them (the model only compares them) -/
abbrev cParagraph : Nat := 1
abbrev cText : Nat := 2
abbrev cTable : Nat := 3
abbrev cTableCell : Nat := 6
abbrev cGraphic : Nat := 7
abbrev cPresentation : Nat := 8
abbrev cDrawingPage : Nat := 9
abbrev cData : Nat := 13
abbrev cList : Nat := 14
abbrev cPageLayout : Nat := 15

def P1 : Str := [80, 49]
def T1 : Str := [84, 49]
def gr1 : Str := [103, 114, 49]
def L1 : Str := [76, 49]

/-- the cell (kind, attribute) of the matrix with the name referenced from BOTH the body and a master page:
    definition 0 in content.xml, definition 1 in styles.xml, one reference each -/
def clashPkg (isStyle : Bool) (cls : Nat) (n : Str) (a : Nat) : Pkg :=
  { cAuto := [⟨isStyle, cls, n, 0, []⟩], body := [⟨a, n, cls⟩], common := []
    sAuto := [⟨isStyle, cls, n, 1, []⟩], master := [⟨a, n, cls⟩] }

/-- **why the master-page cell fails**: for a name used by a definition of each part, `load` leaves the master-page
    reference on the old name unless the definitions are `style:style` AND the attribute is `text:style-name`
    (`register` renames only `style:style`, `rewriteRef` follows only `text:style-name`); in the one container of the
    loaded document the old name finds content.xml's definition (0) instead of styles.xml's (1) -/
theorem master_clash_lost (isStyle : Bool) (cls : Nat) (n : Str) (a : Nat)
    (h : ¬ (isStyle = true ∧ a = a_text_style_name) ∧ commonOnly a = false) :
    resolveBefore (clashPkg isStyle cls n a) (.master 0) = some 1 ∧
    resolveMem (clashPkg isStyle cls n a) (.master 0) = some 0 := by
  have ha : isStyle = true → a ≠ a_text_style_name := fun hs e => h.1 ⟨hs, e⟩
  -- run the load order and the two resolutions on the two-definition package; `ha`, `h.2` decide the branches
  cases isStyle <;>
    simp [clashPkg, load, afterStylesAuto, afterCommon, afterContentAuto, indexDefs, indexDef, register, rewriteRef,
      resolveBefore, resolveMem, resolveAt, siteRef, autosFor, memPkg, resolve, findDef, findKey, key, ha, h.2]

theorem master_clash_not_preserved {isStyle : Bool} {cls : Nat} {n : Str} {a : Nat}
    (h : ¬ (isStyle = true ∧ a = a_text_style_name) ∧ commonOnly a = false) :
    ¬ Preserved (clashPkg isStyle cls n a) (.master 0) := by
  obtain ⟨h1, h2⟩ := master_clash_lost isStyle cls n a h
  intro hp
  have := hp.1 1 h1
  rw [h2] at this
  cases this

/-- what happens in the probe design-spikes/probes/c11b.py: graphic style `gr1` in both parts, the header frame uses
    `draw:style-name`.  The styles.xml definition (1) is renamed `Mgr1`, the frame still says `gr1`: in the
    loaded document and in the saved styles.xml it resolves to content.xml's definition (0), which is now
    written to BOTH parts, while `Mgr1` is written to neither. -/
theorem finding_draw_style_name :
    resolveBefore (clashPkg true cGraphic gr1 a_draw_style_name) (.master 0) = some 1 ∧
    resolveMem (clashPkg true cGraphic gr1 a_draw_style_name) (.master 0) = some 0 ∧
    resolveAfter (clashPkg true cGraphic gr1 a_draw_style_name) (.master 0) = some 0 ∧
    (saveLoad (clashPkg true cGraphic gr1 a_draw_style_name)).cAuto.map (·.marker) = [0] ∧
    (saveLoad (clashPkg true cGraphic gr1 a_draw_style_name)).sAuto.map (·.marker) = [0] ∧
    ¬ Preserved (clashPkg true cGraphic gr1 a_draw_style_name) (.master 0) := by decide +kernel

/-- **C11 is false for the code as it is.** -/
theorem resolve_preserved_fails : ¬ ∀ p, ResolvePreserved p := by
  obtain ⟨-, -, -, -, -, notPreserved⟩ := finding_draw_style_name
  exact fun h => notPreserved (h _ _)

/-- the single-valued style-reference attributes of the schema that may name an automatic style and are not
    `text:style-name` -/
def otherAttrs : List Nat :=
  schemaStyleRefAttrs.filter (fun a => !schemaListTyped.contains a && !commonOnly a && a != a_text_style_name)

theorem of_mem_otherAttrs {a : Nat} (ha : a ∈ otherAttrs) : a ≠ a_text_style_name ∧ commonOnly a = false := by
  simp only [otherAttrs, List.mem_filter, Bool.and_eq_true, Bool.not_eq_true', bne_iff_ne] at ha
  exact ⟨ha.2.2, ha.2.1.2⟩

/-- **every other reference attribute**: for a `style:style` name used in both parts, the master-page cell fails
    for each of the 38 single-valued schema reference attributes other than `text:style-name`
    (`draw:style-name`, `presentation:style-name`, `table:style-name`, `draw:text-style-name`,
    `text:cond-style-name`, `text:visited-style-name`, `style:data-style-name`, ...); `master_clash_not_preserved` has it
    for every family and name -/
theorem finding_every_other_attribute :
    ∀ a ∈ otherAttrs, ¬ Preserved (clashPkg true cGraphic gr1 a) (.master 0) := by
  intro a ha
  exact master_clash_not_preserved ⟨fun h => (of_mem_otherAttrs ha).1 h.2, (of_mem_otherAttrs ha).2⟩

/-- the list-valued attributes (`draw:class-names`, `presentation:class-names`, `text:class-names`,
    `draw:stroke-dash-names`): no token of the list is rewritten either -/
theorem finding_class_names :
    ∀ a ∈ schemaListTyped, ¬ Preserved (clashPkg true cGraphic gr1 a) (.master 0) := by
  intro a ha
  exact master_clash_not_preserved (by revert a; decide)

theorem finding_presentation_style_name :
    ¬ Preserved (clashPkg true cPresentation [112, 114, 49] a_presentation_style_name) (.master 0) :=
  master_clash_not_preserved (by decide)

theorem finding_table_style_name :
    ¬ Preserved (clashPkg true cTable [116, 97, 49] a_table_style_name) (.master 0) :=
  master_clash_not_preserved (by decide)

theorem finding_cond_style_name :
    ¬ Preserved (clashPkg true cParagraph P1 a_text_cond_style_name) (.master 0) :=
  master_clash_not_preserved (by decide)

/-- a drawing-page style referenced from the master page itself (`draw:style-name` on `style:master-page`,
    what `draw:master-page-name`d pages inherit) -/
theorem finding_drawing_page :
    ¬ Preserved (clashPkg true cDrawingPage [100, 112, 49] a_draw_style_name) (.master 0) :=
  master_clash_not_preserved (by decide)

/-- **definitions that are not `style:style`** (data styles, list styles, page layouts) are not renamed at all:
    two definitions share one name in the one container, both are written to styles.xml, the first wins -/
theorem finding_data_style_name :
    (load (clashPkg false cData [78, 48] a_style_data_style_name)).auto.map (·.name) = [[78, 48], [78, 48]] ∧
    (saveLoad (clashPkg false cData [78, 48] a_style_data_style_name)).sAuto.map (·.marker) = [0, 1] ∧
    ¬ Preserved (clashPkg false cData [78, 48] a_style_data_style_name) (.master 0) := by decide +kernel

/-- for those kinds not even `text:style-name` survives (`<text:list text:style-name="L1">` in a header) -/
theorem finding_list_style : ¬ Preserved (clashPkg false cList L1 a_text_style_name) (.master 0) :=
  master_clash_not_preserved (by decide)

theorem finding_page_layout :
    ¬ Preserved (clashPkg false cPageLayout [112, 109, 49] a_style_page_layout_name) (.master 0) :=
  master_clash_not_preserved (by decide)

/-- ... and for every single-valued schema reference attribute (here `text:style-name` included) -/
theorem finding_not_style_style_every_attribute :
    ∀ a ∈ a_text_style_name :: otherAttrs, ¬ Preserved (clashPkg false cList L1 a) (.master 0) := by
  intro a ha
  rcases List.mem_cons.mp ha with rfl | ha
  · exact master_clash_not_preserved (by decide)
  · exact master_clash_not_preserved ⟨fun h => Bool.noConfusion h.1, (of_mem_otherAttrs ha).2⟩

/-- **a reference that comes before the renamed definition**: styles.xml has the list style `L` (marker 2) whose
    level uses the text style `T1` and which precedes `T1` (marker 1) among the automatic styles; the header uses
    `L`.  The rewrite reaches only what is indexed after the rename was recorded. -/
def wBefore : Pkg :=
  { cAuto := [⟨true, cText, T1, 0, []⟩], body := [⟨a_text_style_name, T1, cText⟩], common := []
    sAuto := [⟨false, cList, L1, 2, [⟨a_text_style_name, T1, cText⟩]⟩, ⟨true, cText, T1, 1, []⟩]
    master := [⟨a_text_style_name, L1, cList⟩] }

theorem finding_reference_before_rename :
    resolveBefore wBefore (.inStyles 2 0) = some 1 ∧ resolveAfter wBefore (.inStyles 2 0) = some 0 ∧
    ¬ Preserved wBefore (.inStyles 2 0) := by decide +kernel

/-- the same two styles in the other order: the reference is rewritten and the cell holds -/
theorem reference_after_rename_holds :
    Preserved { wBefore with sAuto := wBefore.sAuto.reverse } (.inStyles 2 0) := by decide +kernel

/-- a data style referenced from inside an automatic cell style of styles.xml (`style:data-style-name` on
    `style:style`), before or after: never rewritten, and the data style is not renamed either -/
def wDataInside : Pkg :=
  { cAuto := [⟨false, cData, [78, 48], 0, []⟩], body := [], common := []
    sAuto := [⟨false, cData, [78, 48], 1, []⟩, ⟨true, cTableCell, [99, 101, 49], 2, [⟨a_style_data_style_name, [78, 48], cData⟩]⟩]
    master := [⟨a_table_style_name, [99, 101, 49], cTableCell⟩] }

theorem finding_data_style_inside_style : ¬ Preserved wDataInside (.inStyles 2 0) := by decide +kernel

/-- **'M'+name is taken**: content.xml has `P1` (0) and `MP1` (2), styles.xml has `P1` (1).  The styles.xml
    definition is renamed to `MP1`, which exists: the header paragraph now resolves to (2). -/
def wMTaken : Pkg :=
  { cAuto := [⟨true, cParagraph, P1, 0, []⟩, ⟨true, cParagraph, mName P1, 2, []⟩]
    body := [⟨a_text_style_name, P1, cParagraph⟩, ⟨a_text_style_name, mName P1, cParagraph⟩], common := []
    sAuto := [⟨true, cParagraph, P1, 1, []⟩], master := [⟨a_text_style_name, P1, cParagraph⟩] }

theorem finding_mname_taken :
    resolveBefore wMTaken (.master 0) = some 1 ∧ resolveAfter wMTaken (.master 0) = some 2 ∧
    ¬ Preserved wMTaken (.master 0) := by decide +kernel

/-- the other order holds: styles.xml has `P1` (1) THEN `MP1` (2), content.xml has `P1` (0).  Both styles.xml
    definitions move on (`MP1`, `MMP1`), the map is `P1 → MP1`, `MP1 → MMP1`, and a reference is sent through it
    exactly ONCE: header `P1 → MP1` (1), footer `MP1 → MMP1` (2).  (Following the map transitively would send the
    header to the footer's style.)  Outside `Handled`, so an instance by evaluation. -/
def wMAfter : Pkg :=
  { cAuto := [⟨true, cParagraph, P1, 0, []⟩], body := [⟨a_text_style_name, P1, cParagraph⟩], common := []
    sAuto := [⟨true, cParagraph, P1, 1, []⟩, ⟨true, cParagraph, mName P1, 2, []⟩]
    master := [⟨a_text_style_name, P1, cParagraph⟩, ⟨a_text_style_name, mName P1, cParagraph⟩] }

theorem source_mname_after_holds :
    (load wMAfter).auto.map (·.name) = [P1, mName P1, mName (mName P1)] ∧
    (load wMAfter).master.map (·.name) = [mName P1, mName (mName P1)] ∧
    ¬ Handled wMAfter ∧ ∀ s ∈ allSites wMAfter, Preserved wMAfter s := by decide +kernel

/-- **the index ignores the family**: a graphic style of styles.xml named like a paragraph style of content.xml
    is renamed although the two can never be confused; the header frame's `draw:style-name` then dangles -/
def wOtherFamily : Pkg :=
  { cAuto := [⟨true, cParagraph, [88, 49], 0, []⟩], body := [⟨a_text_style_name, [88, 49], cParagraph⟩], common := []
    sAuto := [⟨true, cGraphic, [88, 49], 1, []⟩], master := [⟨a_draw_style_name, [88, 49], cGraphic⟩] }

theorem finding_other_family :
    resolveBefore wOtherFamily (.master 0) = some 1 ∧ resolveAfter wOtherFamily (.master 0) = none ∧
    ¬ Preserved wOtherFamily (.master 0) := by decide +kernel

/-- adjacent, inside ONE part: paragraph style `a1` and text style `a1` (legal: names are per family).  The second
    is renamed and every later `text:style-name="a1"` is rewritten — the paragraph's too, which then dangles. -/
def wSamePart : Pkg :=
  { cAuto := [⟨true, cParagraph, [97, 49], 0, []⟩, ⟨true, cText, [97, 49], 1, []⟩]
    body := [⟨a_text_style_name, [97, 49], cParagraph⟩, ⟨a_text_style_name, [97, 49], cText⟩]
    common := [], sAuto := [], master := [] }

theorem finding_same_part_other_family :
    resolveBefore wSamePart (.body 0) = some 0 ∧ resolveAfter wSamePart (.body 0) = none ∧
    Preserved wSamePart (.body 1) ∧ ¬ Preserved wSamePart (.body 0) := by decide +kernel

/-- adjacent, a COMMON style: common styles and automatic styles share the one dictionary, so a common style of
    styles.xml named like an automatic style of content.xml is renamed; its child's `style:parent-style-name`
    (never rewritten) dangles -/
def wCommon : Pkg :=
  { cAuto := [⟨true, cParagraph, [67, 120], 0, []⟩], body := [⟨a_text_style_name, [67, 120], cParagraph⟩]
    common := [⟨true, cParagraph, [67, 120], 1, []⟩,
               ⟨true, cParagraph, [67, 104], 2, [⟨a_style_parent_style_name, [67, 120], cParagraph⟩]⟩]
    sAuto := [], master := [⟨a_text_style_name, [67, 120], cParagraph⟩] }

theorem finding_common_style_renamed :
    (load wCommon).common.map (·.name) = [mName [67, 120], [67, 104]] ∧
    Preserved wCommon (.master 0) ∧ ¬ Preserved wCommon (.inCommon 2 0) := by decide +kernel

/-- why the property is an implication and not the literal equality `resolveAfter = resolveBefore`: a body reference to `MP1`
    that dangles in the source resolves after load+save, because the styles.xml `P1` now carries that name and is
    written to content.xml — with `text:style-name`, inside the handled class -/
def wDangling : Pkg :=
  { cAuto := [⟨true, cParagraph, P1, 0, []⟩], body := [⟨a_text_style_name, mName P1, cParagraph⟩], common := []
    sAuto := [⟨true, cParagraph, P1, 1, []⟩], master := [⟨a_text_style_name, P1, cParagraph⟩] }

theorem equality_form_too_strong :
    resolveBefore wDangling (.body 0) = none ∧ resolveAfter wDangling (.body 0) = some 1 ∧
    Preserved wDangling (.body 0) ∧ Preserved wDangling (.master 0) := by decide +kernel

/-! ### The part the code handles -/

/- `names`, `Handled`, `Seen`, `HandledSite` (the decidable classes) are defined in OdfModel.StyleClash, so that the
   driver can evaluate them on every package of the correspondence run. -/

theorem findKey_append (l1 l2 : List (Str × Nat × Nat)) (n : Str) (c : Nat) :
    findKey (l1 ++ l2) n c = (findKey l1 n c).or (findKey l2 n c) := by
  induction l1 with
  | nil => rfl
  | cons k ks ih =>
    simp only [List.cons_append, findKey]
    split
    · rfl
    · exact ih

theorem findKey_none {l : List (Str × Nat × Nat)} {n : Str} (c : Nat) (h : ∀ k ∈ l, k.1 ≠ n) :
    findKey l n c = none := by
  induction l with
  | nil => rfl
  | cons k ks ih =>
    rw [findKey, if_neg fun hh => h k List.mem_cons_self hh.1]
    exact ih fun k' hk' => h k' (List.mem_cons_of_mem _ hk')

theorem findKey_filter (N : List Str) (l : List (Str × Nat × Nat)) (n : Str) (c : Nat) (hn : n ∈ N) :
    findKey (l.filter (fun k => decide (k.1 ∈ N))) n c = findKey l n c := by
  induction l with
  | nil => rfl
  | cons k ks ih =>
    rw [List.filter_cons]
    split
    · simp only [findKey, ih]
    · rename_i hk
      rw [findKey, if_neg fun hh => hk (by simpa [hh.1] using hn), ih]

theorem findKey_map (f : Str → Str) (l : List (Str × Nat × Nat)) (n : Str) (c : Nat)
    (h : ∀ k ∈ l, f k.1 = f n → k.1 = n) :
    findKey (l.map (fun k => (f k.1, k.2))) (f n) c = findKey l n c := by
  induction l with
  | nil => rfl
  | cons k ks ih =>
    have hk : (f k.1 = f n ∧ k.2.1 = c) ↔ (k.1 = n ∧ k.2.1 = c) :=
      and_congr_left fun _ => ⟨h k List.mem_cons_self, congrArg f⟩
    simp only [List.map_cons, findKey, hk, ih fun k' hk' => h k' (List.mem_cons_of_mem _ hk')]

theorem mem_keys_names {ds : List Def} {k : Str × Nat × Nat} (h : k ∈ ds.map key) : k.1 ∈ names ds := by
  obtain ⟨d, hd, rfl⟩ := List.mem_map.mp h
  exact List.mem_map.mpr ⟨d, hd, rfl⟩

theorem findDef_none {ds : List Def} {n : Str} (c : Nat) (h : n ∉ names ds) : findDef ds n c = none :=
  findKey_none c fun _ hk e => h (e ▸ mem_keys_names hk)

theorem findDef_some_mem {ds : List Def} {n : Str} {c m : Nat} (h : findDef ds n c = some m) : n ∈ names ds :=
  Decidable.by_contra fun hn => by rw [findDef_none c hn] at h; cases h

theorem resolve_some_mem {a c : List Def} {r : Ref} {m : Nat} (h : resolve a c r = some m) :
    r.name ∈ names a ∨ r.name ∈ names c := by
  unfold resolve at h
  split at h
  · exact Or.inr (findDef_some_mem h)
  · split at h
    · next m' ha => exact Or.inl (findDef_some_mem ha)
    · exact Or.inr (findDef_some_mem h)

theorem resolve_congr {a a' c c' : List Def} {r r' : Ref} (hattr : r'.attr = r.attr)
    (ha : findDef a' r'.name r'.cls = findDef a r.name r.cls)
    (hc : findDef c' r'.name r'.cls = findDef c r.name r.cls) : resolve a' c' r' = resolve a c r := by
  unfold resolve
  rw [hattr, ha, hc]

/-! #### save: what is written is a filter by name of the one container -/

theorem nodeRef_refNode (r : Ref) : nodeRef (refNode r) = some r := by cases r; rfl

theorem filterMap_nodeRef (rs : List Ref) : (rs.map refNode).filterMap nodeRef = rs := by
  induction rs with
  | nil => rfl
  | cons r rs ih => simp only [List.map_cons, List.filterMap_cons, nodeRef_refNode, ih]

theorem nodeDef_defNode (d : Def) : nodeDef (defNode d) = some d := by
  obtain ⟨s, c, n, m, rs⟩ := d
  simp only [defNode, nodeDef, filterMap_nodeRef]
  cases s <;> rfl

theorem keptPred_defNode (N : List Str) (d : Def) : keptPred N (defNode d) = decide (d.name ∈ N) := by
  simp [keptPred, styleNameOf, defNode, List.lookup, styleNameAttr]

theorem keptFor_eq (segs : List Node) (auto : List Def) :
    keptFor segs auto = auto.filter (fun d => decide (d.name ∈ (final cfg segs (defsNode auto)).1)) := by
  unfold keptFor
  rw [usedAuto_filter]
  show ((auto.map defNode).filter _).filterMap nodeDef = _
  rw [List.filter_map, List.filterMap_map]
  simp only [Function.comp_def, nodeDef_defNode, keptPred_defNode, List.filterMap_some]

theorem resolve_keptFor {segs : List Node} {auto common : List Def} {rs : List Ref} {r : Ref}
    (hseg : sitesNode rs ∈ segs) (hr : r ∈ rs) (hs : Seen r) :
    resolve (keptFor segs auto) common r = resolve auto common r := by
  have hn : r.name ∈ (final cfg segs (defsNode auto)).1 := by
    refine (mem_final_iff _ _ _ _).mpr (Reach.root hseg (List.mem_map.mpr ⟨r, hr, rfl⟩) ?_)
    simp only [refNode, refsNode, List.mem_append]
    refine Or.inl (Or.inl ((mem_ownRefs _ _ _).mpr ⟨hs.2, r.attr, hs.1, ?_⟩))
    simp [List.lookup]
  refine resolve_congr rfl ?_ rfl
  unfold findDef
  rw [← findKey_filter _ (auto.map key) _ _ hn, keptFor_eq, List.filter_map]
  rfl

theorem resolveAt_save (d : Doc) (i : Nat) :
    (∀ r, d.body[i]? = some r → Seen r → resolveAt (save d) (.body i) = resolveAt (memPkg d) (.body i)) ∧
    (∀ r, d.master[i]? = some r → Seen r → resolveAt (save d) (.master i) = resolveAt (memPkg d) (.master i)) := by
  constructor
  all_goals
    intro r hr hs
    simp only [resolveAt, siteRef, save, memPkg, autosFor, hr]
    exact resolve_keptFor (by simp) (List.mem_of_getElem? hr) hs

/-! #### load: closed form on the handled class -/

theorem rewriteRef_nil (r : Ref) : rewriteRef [] r = r := by
  unfold rewriteRef
  split <;> rfl

theorem map_rewriteRef_nil (rs : List Ref) : rs.map (rewriteRef []) = rs := by
  rw [funext rewriteRef_nil, List.map_id']

theorem indexDefs_plain (ds : List Def) (D : List Str)
    (hs : ∀ d ∈ ds, d.isStyle = true) (hnd : (names ds).Nodup) (hfresh : ∀ n ∈ names ds, n ∉ D) :
    indexDefs ⟨D, []⟩ ds = (⟨(names ds).reverse ++ D, []⟩, ds) := by
  induction ds generalizing D with
  | nil => rfl
  | cons d ds ih =>
    simp only [names, List.map_cons, List.nodup_cons, List.mem_cons, forall_eq_or_imp] at hnd hfresh
    have hidx : indexDef ⟨D, []⟩ d = (⟨d.name :: D, []⟩, d) := by
      rw [indexDef, register, if_pos (hs d List.mem_cons_self), if_neg hfresh.1]
      simp only [map_rewriteRef_nil]
    rw [indexDefs, hidx, ih (d.name :: D) (fun d' hd' => hs d' (List.mem_cons_of_mem _ hd')) hnd.2
      fun n hn hm => (List.mem_cons.mp hm).elim (fun e => hnd.1 (e ▸ hn)) (hfresh.2 n hn)]
    simp [names]

/-- the name a styles.xml definition ends with: 'M'+name if the name is already registered -/
def ren (D : List Str) (n : Str) : Str := if n ∈ D then mName n else n

/-- what indexing does to the `key` of a `style:style` definition when `D` is registered (`indexDef_style`) -/
def renKey (D : List Str) (k : Str × Nat × Nat) : Str × Nat × Nat := (ren D k.1, k.2)

theorem key_refs (d : Def) (rs : List Ref) : key { d with refs := rs } = key d := rfl

theorem indexDef_style (st : LState) (d : Def) (hd : d.isStyle = true) :
    key (indexDef st d).2 = renKey st.dict (key d) ∧
    (indexDef st d).1.dict = ren st.dict d.name :: st.dict ∧
    (indexDef st d).1.fix = if d.name ∈ st.dict then (d.name, mName d.name) :: st.fix else st.fix := by
  unfold indexDef register renKey ren
  by_cases h : d.name ∈ st.dict <;> simp [hd, h, key]

theorem lookup_graph (f : Str → Str) (L : List Str) (x : Str) :
    (L.map fun n => (n, f n)).lookup x = if x ∈ L then some (f x) else none := by
  induction L with
  | nil => rfl
  | cons n L ih => by_cases hx : x = n <;> simp [List.lookup_cons, ih, hx, beq_false_of_ne]

/-- the run over the automatic styles of styles.xml.  `D` = the names registered before it; what the run itself
    registers never meets a later name of the run (`hnd`, `hM`), so "registered" keeps meaning "in `D`" -/
theorem indexDefs_ren (D : List Str) (ds : List Def) (st : LState)
    (hdict : ∀ n ∈ names ds, (n ∈ st.dict ↔ n ∈ D))
    (hs : ∀ d ∈ ds, d.isStyle = true) (hnd : (names ds).Nodup)
    (hM : ∀ n ∈ names ds, n ∈ D → mName n ∉ names ds) :
    (indexDefs st ds).2.map key = (ds.map key).map (renKey D) ∧
    (indexDefs st ds).1.fix = (((names ds).filter (· ∈ D)).map fun n => (n, mName n)).reverse ++ st.fix := by
  induction ds generalizing st with
  | nil => simp [indexDefs, names]
  | cons d ds ih =>
    obtain ⟨k1, k2, k3⟩ := indexDef_style st d (hs d List.mem_cons_self)
    simp only [names, List.map_cons, List.nodup_cons] at hnd hM hdict
    have hd : d.name ∈ st.dict ↔ d.name ∈ D := hdict _ List.mem_cons_self
    have hnew : ∀ n ∈ ds.map (·.name), n ≠ ren st.dict d.name := by
      intro n hn e
      unfold ren at e
      split at e
      · next hin => exact hM _ List.mem_cons_self (hd.mp hin) (e ▸ List.mem_cons_of_mem _ hn)
      · exact hnd.1 (e ▸ hn)
    obtain ⟨h1, h2⟩ := ih (indexDef st d).1
      (fun n hn => by rw [k2, List.mem_cons, ← hdict n (List.mem_cons_of_mem _ hn)]; simp [hnew n hn])
      (fun d' hd' => hs d' (List.mem_cons_of_mem _ hd')) hnd.2
      (fun n hn hnD hm => hM n (List.mem_cons_of_mem _ hn) hnD (List.mem_cons_of_mem _ hm))
    simp only [indexDefs, List.map_cons, names]
    rw [h1, h2, k1, k3]
    unfold renKey ren
    by_cases hD : d.name ∈ D <;> simp [key, hd, hD, names]

/-- **what `load` does to a handled package**: content.xml and the common styles come through untouched; an automatic
    style of styles.xml is renamed exactly when content.xml has its name; a reference met after them (the master pages)
    is rewritten exactly when it is `text:style-name` and bears such a name -/
theorem load_handled {p : Pkg} (h : Handled p) :
    (load p).common = p.common ∧ (load p).body = p.body ∧
    (load p).auto.map key = p.cAuto.map key ++ (p.sAuto.map key).map (renKey (names p.cAuto)) ∧
    ∀ r, rewriteRef (load p).fix r =
      if r.attr = a_text_style_name ∧ r.name ∈ names p.sAuto ∧ r.name ∈ names p.cAuto then { r with name := mName r.name }
      else r := by
  obtain ⟨hall, hc, hco, hsn, hcof, hM⟩ := h
  have a : afterContentAuto p = (⟨(names p.cAuto).reverse ++ [], []⟩, p.cAuto) :=
    indexDefs_plain p.cAuto [] (fun d hd => hall d (by simp [hd])) hc (fun _ _ hm => by cases hm)
  have b : afterCommon p = (⟨(names p.common).reverse ++ ((names p.cAuto).reverse ++ []), []⟩, p.common) := by
    unfold afterCommon
    rw [a]
    exact indexDefs_plain p.common _ (fun d hd => hall d (by simp [hd])) hco
      fun n hn hm => (hcof n hn).1 (by simpa using hm)
  obtain ⟨c1, c2⟩ := indexDefs_ren (names p.cAuto) p.sAuto (afterCommon p).1
    (fun n hn => by simp [b, show n ∉ names p.common from fun hk => (hcof n hk).2 hn])
    (fun d hd => hall d (by simp [hd])) hsn (fun n hn hC => (hM n hn hC).2.2)
  refine ⟨congrArg Prod.snd b, ?_, ?_, fun r => ?_⟩
  · show p.body.map (rewriteRef (afterContentAuto p).1.fix) = p.body
    rw [a, map_rewriteRef_nil]
  · show ((afterContentAuto p).2 ++ (afterStylesAuto p).2).map key = _
    rw [List.map_append, a]
    exact congrArg _ c1
  · have h3 : (load p).fix = _ := c2
    rw [b] at h3
    unfold rewriteRef
    rw [h3, List.append_nil, ← List.map_reverse, lookup_graph]
    -- both sides are `if attr ∧ clash then renamed else r`
    by_cases ht : r.attr = a_text_style_name <;> by_cases hn : r.name ∈ names p.sAuto ∧ r.name ∈ names p.cAuto <;>
      simp [ht, hn]

theorem rewriteRef_load {p : Pkg} (h : Handled p) (r : Ref) : rewriteRef (load p).fix r =
    if r.attr = a_text_style_name ∧ r.name ∈ names p.sAuto ∧ r.name ∈ names p.cAuto then { r with name := mName r.name }
    else r := (load_handled h).2.2.2 r

/-! #### resolution in the one container of the loaded document -/

theorem handled_common_fresh {p : Pkg} (h : Handled p) {n : Str} (hn : n ∈ names p.common) :
    n ∉ names p.cAuto ∧ n ∉ names p.sAuto := h.2.2.2.2.1 n hn

theorem mName_inj {a b : Str} (h : mName a = mName b) : a = b := by
  simpa [mName] using h

theorem ren_inj {C U : List Str} (hU : ∀ k ∈ U, k ∈ C → mName k ∉ U) {k n : Str} (hk : k ∈ U) (hn : n ∈ U)
    (e : ren C k = ren C n) : k = n := by
  unfold ren at e
  split at e <;> split at e
  · exact mName_inj e
  · next hkC _ => exact absurd (e ▸ hn) (hU k hk hkC)
  · next _ hnC => exact absurd (e ▸ hk) (hU n hn hnC)
  · exact e

theorem ren_sAuto {p : Pkg} (h : Handled p) {n : Str} (hn : n ∈ names p.sAuto) :
    (∀ k ∈ names p.sAuto, ren (names p.cAuto) k = ren (names p.cAuto) n → k = n) ∧
    ren (names p.cAuto) n ∉ names p.cAuto ∧ ren (names p.cAuto) n ∉ names p.common := by
  obtain ⟨-, -, -, -, hcof, hM⟩ := h
  refine ⟨fun k hk => ren_inj (fun k hk hC => (hM k hk hC).2.2) hk hn, ?_⟩
  unfold ren
  split
  · next hC => exact ⟨(hM n hn hC).1, (hM n hn hC).2.1⟩
  · next hC => exact ⟨hC, fun hk => (hcof n hk).2 hn⟩

theorem findDef_loaded {p : Pkg} (h : Handled p) (c : Nat) :
    (∀ n ∈ names p.sAuto, findDef (load p).auto (ren (names p.cAuto) n) c = findDef p.sAuto n c) ∧
    (∀ y, y ∈ names p.cAuto ∨ y ∈ names p.common → findDef (load p).auto y c = findDef p.cAuto y c) := by
  have hL : ∀ x, findDef (load p).auto x c =
      (findDef p.cAuto x c).or (findKey ((p.sAuto.map key).map (renKey (names p.cAuto))) x c) := by
    intro x
    obtain ⟨-, -, hkeys, -⟩ := load_handled h
    unfold findDef
    rw [hkeys, findKey_append]
  constructor
  · intro n hn
    obtain ⟨h3, h1, -⟩ := ren_sAuto h hn
    rw [hL, findDef_none c h1, Option.none_or]
    exact findKey_map (ren (names p.cAuto)) (p.sAuto.map key) n c fun _ hk e => h3 _ (mem_keys_names hk) e
  · intro y hy
    rw [hL, findKey_none c, Option.or_none]
    intro _ hk0 e
    obtain ⟨k, hk, rfl⟩ := List.mem_map.mp hk0
    obtain ⟨-, h1, h2⟩ := ren_sAuto h (mem_keys_names hk)
    exact hy.elim (e ▸ h1) (e ▸ h2)

theorem body_resolve {p : Pkg} (h : Handled p) (r : Ref) (hn : r.name ∈ names p.cAuto ∨ r.name ∈ names p.common) :
    resolve (load p).auto p.common r = resolve p.cAuto p.common r :=
  resolve_congr rfl ((findDef_loaded h r.cls).2 _ hn) rfl

theorem master_resolve {p : Pkg} (h : Handled p) (r : Ref)
    (hsite : r.attr = a_text_style_name ∨ ¬ (r.name ∈ names p.sAuto ∧ r.name ∈ names p.cAuto))
    (hn : r.name ∈ names p.sAuto ∨ r.name ∈ names p.common) :
    resolve (load p).auto p.common (rewriteRef (load p).fix r) = resolve p.sAuto p.common r := by
  by_cases hS : r.name ∈ names p.sAuto
  · -- the name of an automatic style of styles.xml: the reference follows the style to its new name,
    -- and no common style has the old name or the new
    have hr' : rewriteRef (load p).fix r = { r with name := ren (names p.cAuto) r.name } := by
      rw [rewriteRef_load h]
      unfold ren
      by_cases hC : r.name ∈ names p.cAuto
      · rw [if_pos ⟨hsite.resolve_right fun hn => hn ⟨hS, hC⟩, hS, hC⟩, if_pos hC]
      · rw [if_neg fun hh => hC hh.2.2, if_neg hC]
    rw [hr']
    exact resolve_congr rfl ((findDef_loaded h r.cls).1 _ hS)
      ((findDef_none r.cls (ren_sAuto h hS).2.2).trans (findDef_none r.cls fun hk => (handled_common_fresh h hk).2 hS).symm)
  · -- any other name the part knows is that of a common style: the table does not hold it
    have hK := hn.resolve_left hS
    rw [rewriteRef_load h, if_neg fun hh => hS hh.2.1]
    refine resolve_congr rfl ?_ rfl
    rw [(findDef_loaded h r.cls).2 _ (Or.inr hK), findDef_none r.cls (handled_common_fresh h hK).1,
      findDef_none r.cls hS]

theorem seen_rewrite {p : Pkg} (h : Handled p) {r : Ref} (hs : Seen r) : Seen (rewriteRef (load p).fix r) := by
  rw [rewriteRef_load h]
  split
  · exact ⟨hs.1, List.cons_ne_nil _ _⟩
  · exact hs

/-- the property for the document `d` a process holds for the source parts `p` -/
def PreservedDoc (p : Pkg) (d : Doc) (s : Site) : Prop :=
  (∀ m, resolveBefore p s = some m → resolveAt (memPkg d) s = some m) ∧
  (∀ m, resolveBefore p s = some m → (siteRef (save d) s).isSome = true → resolveAt (save d) s = some m)

theorem preservedDoc_load (p : Pkg) (s : Site) : PreservedDoc p (load p) s ↔ Preserved p s := Iff.rfl

theorem preserved_of_none {p : Pkg} {s : Site} (hsrc : siteRef p s = none) : Preserved p s := by
  have : resolveBefore p s = none := by unfold resolveBefore resolveAt; rw [hsrc]
  constructor <;> intro m hb <;> rw [this] at hb <;> cases hb

/-- **C11, the part the code handles** (`resolve_preserved` restricted): for a package of the class `Handled`
    every body reference — through ANY reference attribute — and every master-page reference that is
    `text:style-name` (or whose name does not clash) resolves, in the loaded document and in the saved package,
    to the definition it resolved to in the source.  Missing for the full statement: every other (kind,
    attribute, placement) cell — classes of them are refuted by the `finding_*` theorems above. -/
theorem resolve_preserved_partial (p : Pkg) (h : Handled p) (s : Site) (hs : HandledSite p s) :
    Preserved p s := by
  obtain ⟨hcommon, hbody, -, -⟩ := load_handled h
  -- in each case: the loaded document keeps the site on its definition (`hmem`), and saving does not move it
  cases s with
  | body i =>
    cases hr : p.body[i]? with
    | none => exact preserved_of_none hr
    | some r =>
      have hr' : (load p).body[i]? = some r := by rw [hbody, hr]
      have hmem : PreservedMem p (.body i) := fun m hb => by
        simp only [resolveBefore, resolveMem, resolveAt, siteRef, memPkg, autosFor, hr, hr', hcommon] at hb ⊢
        rw [body_resolve h r (resolve_some_mem hb)]
        exact hb
      exact ⟨hmem, fun m hb _ => ((resolveAt_save (load p) i).1 r hr' (hs r hr)).trans (hmem m hb)⟩
  | master i =>
    cases hr : p.master[i]? with
    | none => exact preserved_of_none hr
    | some r =>
      have hr' : (load p).master[i]? = some (rewriteRef (load p).fix r) := by
        show (p.master.map _)[i]? = _
        rw [List.getElem?_map, hr]
        rfl
      have hmem : PreservedMem p (.master i) := fun m hb => by
        simp only [resolveBefore, resolveMem, resolveAt, siteRef, memPkg, autosFor, hr, hr', hcommon] at hb ⊢
        rw [master_resolve h r (hs r hr).2 (resolve_some_mem hb)]
        exact hb
      exact ⟨hmem, fun m hb _ =>
        ((resolveAt_save (load p) i).2 _ hr' (seen_rewrite h (hs r hr).1)).trans (hmem m hb)⟩
  | inContent _ _ | inStyles _ _ | inCommon _ _ => exact absurd hs (by simp [HandledSite])

/-! #### the hypotheses are satisfiable, and not vacuously -/

/-- headerfooter.odt in small: paragraph style `P1` and text style `T1` in both parts, a common style, used through
    `text:style-name` from the body and from the header, plus a frame in the BODY using a graphic style through
    `draw:style-name` (body references are safe through any attribute) -/
def wGood : Pkg :=
  { cAuto := [⟨true, cParagraph, P1, 0, []⟩, ⟨true, cText, T1, 1, []⟩, ⟨true, cGraphic, gr1, 2, []⟩]
    body := [⟨a_text_style_name, P1, cParagraph⟩, ⟨a_text_style_name, T1, cText⟩, ⟨a_draw_style_name, gr1, cGraphic⟩,
             ⟨a_text_style_name, [83], cParagraph⟩]
    common := [⟨true, cParagraph, [83], 9, []⟩]
    sAuto := [⟨true, cParagraph, P1, 3, [⟨a_style_parent_style_name, [83], cParagraph⟩]⟩, ⟨true, cText, T1, 4, []⟩,
              ⟨true, cGraphic, [70], 5, []⟩]
    master := [⟨a_text_style_name, P1, cParagraph⟩, ⟨a_text_style_name, T1, cText⟩, ⟨a_draw_style_name, [70], cGraphic⟩,
               ⟨a_text_style_name, [83], cParagraph⟩] }

theorem wGood_handled : Handled wGood ∧ ∀ s ∈ [Site.body 0, .body 1, .body 2, .body 3, .master 0, .master 1, .master 2, .master 3],
    HandledSite wGood s := by decide +kernel

/-- the rename really happens there, and the references really resolve (the theorem is not vacuous) -/
theorem wGood_nontrivial :
    (load wGood).fix = [(T1, mName T1), (P1, mName P1)] ∧
    (load wGood).master.map (·.name) = [mName P1, mName T1, [70], [83]] ∧
    (allSites wGood).map (resolveBefore wGood) = [some 0, some 1, some 2, some 9, some 3, some 4, some 5, some 9, some 9] ∧
    (allSites wGood).map (resolveAfter wGood) = [some 0, some 1, some 2, some 9, some 3, some 4, some 5, some 9, some 9] ∧
    (saveLoad wGood).cAuto.map (·.marker) = [0, 1, 2] ∧ (saveLoad wGood).sAuto.map (·.marker) = [3, 4, 5] := by decide +kernel

example : Preserved wGood (.master 0) :=
  resolve_preserved_partial wGood wGood_handled.1 _ (wGood_handled.2 _ (by simp))

/-- the classes are not wider than they need be, as far as the counter-examples above show: the packages of
    `finding_list_style`, `finding_mname_taken` and `finding_same_part_other_family` are outside `Handled` (not all
    `style:style`; 'M'+name taken; a name twice in content.xml) with the failing site inside `HandledSite`; that of
    `finding_draw_style_name` is inside `Handled` and its failing master site outside `HandledSite`.  Which clause a
    package violates is not part of the statement, and the other clauses of `Handled` have no witness here. -/
theorem handled_clauses_needed :
    (¬ Handled (clashPkg false cList L1 a_text_style_name) ∧ HandledSite (clashPkg false cList L1 a_text_style_name) (.master 0)) ∧
    (¬ Handled wMTaken ∧ HandledSite wMTaken (.master 0)) ∧
    (¬ Handled wSamePart ∧ HandledSite wSamePart (.body 0)) ∧
    (Handled (clashPkg true cGraphic gr1 a_draw_style_name) ∧
      ¬ HandledSite (clashPkg true cGraphic gr1 a_draw_style_name) (.master 0) ∧
      HandledSite (clashPkg true cGraphic gr1 a_draw_style_name) (.body 0)) := by decide +kernel

/-- in the matrix: for a `style:style` name in both parts, the body cell holds for every single-valued
    schema reference attribute and the master cell holds for `text:style-name` (instances of the theorem) -/
theorem cells_that_hold (cls : Nat) (a : Nat) (ha : a ∈ followedAttrs) :
    Preserved (clashPkg true cls gr1 a) (.body 0) ∧ Preserved (clashPkg true cls gr1 a_text_style_name) (.master 0) := by
  have hH : ∀ a, Handled (clashPkg true cls gr1 a) := fun a => by simp [Handled, clashPkg, names, mName, gr1]
  have hseen : ∀ a ∈ followedAttrs, Seen ⟨a, gr1, cls⟩ := fun a ha => ⟨ha, by simp [gr1]⟩
  refine ⟨resolve_preserved_partial _ (hH a) _ fun r hr => ?_, resolve_preserved_partial _ (hH _) _ fun r hr => ?_⟩
  · cases hr; exact hseen a ha
  · cases hr; exact ⟨hseen _ (by decide), Or.inl rfl⟩

/-! ### Sessions: embedded objects, several packages in one process (`loadSession`) -/

theorem loadFrom_empty (p : Pkg) : (loadFrom ⟨[], []⟩ p).1 = load p := rfl

theorem loadSession_eq_map (ps : List Pkg) : loadSession ps = ps.map load := by
  induction ps with
  | nil => rfl
  | cons p ps ih => rw [loadSession, ih, loadFrom_empty, List.map_cons]

/-- **C11 in a session** (`resolve_preserved_partial` for every document of a process): whatever was loaded
    before — other packages, the parent document of an embedded object, a package whose load failed — the k-th
    (sub)document, if its own parts are in the class `Handled`, keeps every reference of `HandledSite` on the
    definition it had in its own source parts, in memory and in every package saved from it. -/
theorem session_preserved_partial (ps : List Pkg) (k : Nat) (p : Pkg) (d : Doc)
    (hp : ps[k]? = some p) (hd : (loadSession ps)[k]? = some d) (h : Handled p) (s : Site) (hs : HandledSite p s) :
    PreservedDoc p d s := by
  rw [loadSession_eq_map, List.getElem?_map, hp] at hd
  cases hd
  exact (preservedDoc_load p s).mpr (resolve_preserved_partial p h s hs)

/-- an embedded object as an office suite writes it next to `wGood`: its content.xml numbers from `P1` too -/
def wObject : Pkg :=
  { cAuto := [⟨true, cParagraph, P1, 20, []⟩]
    body := [⟨a_text_style_name, P1, cParagraph⟩]
    common := []
    sAuto := [⟨true, cParagraph, mName P1, 21, []⟩]
    master := [⟨a_text_style_name, mName P1, cParagraph⟩] }

/-- **why the rename table must belong to the document**: with one table for the process the body paragraph of
    the object — a package of the class `Handled`, a site of `HandledSite` — follows the rename `P1 -> MP1` of the
    document read before it and lands on the header's definition; with the code's `loadSession` it stays. -/
theorem finding_shared_rename_table :
    Handled wObject ∧ HandledSite wObject (.body 0) ∧
    (loadSessionSharedFix [] [wGood, wObject]).map (fun d => resolveAt (memPkg d) (.body 0)) = [some 0, some 21] ∧
    (loadSessionSharedFix [] [wGood, wObject]).map (fun d => resolveAt (save d) (.body 0)) = [some 0, some 21] ∧
    (loadSession [wGood, wObject]).map (fun d => resolveAt (memPkg d) (.body 0)) = [some 0, some 20] ∧
    (loadSession [wGood, wObject]).map (fun d => resolveAt (save d) (.body 0)) = [some 0, some 20] ∧
    resolveBefore wObject (.body 0) = some 20 := by decide +kernel

example : PreservedDoc wObject ((loadSession [wGood, wObject])[1]) (.body 0) :=
  session_preserved_partial [wGood, wObject] 1 wObject _ rfl rfl finding_shared_rename_table.1 _ finding_shared_rename_table.2.1

end OdfModel.Props.C11
