/-
  Property C13 — the hypothesis `Prep` of Props/C13.lean DISCHARGED for the model of `__fixXmlPart`.

  `Prep` (OdfModel.Entity) says: the text pre-processing between the zip member and the defused parser hands on what
  matters of the member — does its DOCTYPE declare an entity, does it name an external subset — unchanged.  For the code
  as of fix e859a9c this follows from `OdfModel.Props.C05.fix_prolog_untouched`, the character-level model of the
  function being tied to the code by harness/c05.py and harness/c13.py on every prolog text of the fault matrix: where
  the prolog the function finds (`prologLen`) is a sequence of prolog items of the XML grammar followed by a start tag
  (`PrologAt`), the result has the same prolog at the same place.  The recogniser behind `PrologAt` is deterministic
  (no regex, no backtracking) but not independent of the model: it follows `prologRest` / `dtTop` / `dtSubset` of
  LoadSax case for case, with XML white space for Python's, and shares their helpers (`afterFirst`, `splitAtQuote`).  It accepts the items in
  any order and number (several DOCTYPEs, a DOCTYPE in front of the XML declaration, `<!DOCTYPE>` without a name):
  more than production [22], so `prolog_decides` below is assumed for more texts than the well-formed ones.

  What REMAINS ASSUMED (not proved, validated by the fault matrix on every run):
    * `ParserBehaviour` (Entity.lean): defusedxml raises `EntitiesForbidden` at an entity declaration, its SAX reader
      raises `ExternalReferenceForbidden` for an external subset;
    * `DoctypeReader.prolog_decides`: what expat reports of the DOCTYPE is decided by the text in front of the document
      element's start tag (XML 1.0 production [22] prolog: the doctypedecl is part of the prolog) — two texts with the
      same XML prolog, each followed by a start tag, are told apart by nothing the property looks at;
    * the side condition `PrologAt x (prologLen x)`: the regex of the code and the XML grammar agree on where the prolog
      of THIS text ends.  Decidable per text; holds for every legal prolog shape of the fault matrix (checked with the
      model's `prologLen` by `decide` below for the worst of them, `w6`); it fails only for texts that are not XML in
      front of the root (e.g. a vertical tab, which Python's `\s` accepts and XML does not: `vt_not_xml`) — expat
      refuses those with a syntax error whatever `__fixXmlPart` does.
-/
import OdfModel.Props.C05
import OdfModel.Props.C13
namespace OdfModel.Props.C13Prep
open OdfModel OdfModel.Entity OdfModel.LoadSax OdfModel.Props.C05 OdfModel.Props.C13

/-! ### the items of the XML grammar's prolog -/

/-- XML `S` -/
def isXmlWs (c : Cp) : Bool := c == 32 || c == 9 || c == 10 || c == 13

/-- the text behind the `]` that closes an internal subset: comments, processing instructions and quoted literals are
    units (XML 1.0 [28b] intSubset: markupdecl | DeclSep; literals occur inside markup declarations only) -/
def xmlSubset : Nat → Str → Option Str
  | 0, _ => none
  | _+1, [] => none
  | f+1, c :: r =>
    if c == 93 then some r
    else if c == 34 || c == 39 then
      match splitAtQuote c r with
      | some (_, rest) => xmlSubset f rest
      | none => none
    else if c == 60 && isPrefixOf sBangDashes r then
      match afterFirst sCommentEnd (r.drop 3) with
      | some rest => xmlSubset f rest
      | none => none
    else if c == 60 && r.head? == some 63 then
      match afterFirst sPiEnd (r.drop 1) with
      | some rest => xmlSubset f rest
      | none => none
    else xmlSubset f r

/-- the text behind the `>` that closes `<!DOCTYPE` ([28] doctypedecl: name, ExternalID literals, `[` intSubset `]`) -/
def xmlDoctype : Nat → Str → Option Str
  | 0, _ => none
  | _+1, [] => none
  | f+1, c :: r =>
    if c == 62 then some r
    else if c == 34 || c == 39 then
      match splitAtQuote c r with
      | some (_, rest) => xmlDoctype f rest
      | none => none
    else if c == 91 then
      match xmlSubset (r.length + 1) r with
      | some rest => xmlDoctype f rest
      | none => none
    else xmlDoctype f r

/-- the whole text consists of prolog items ([22] prolog, [27] Misc): white space, `<? … ?>`, `<!-- … -->`, `<!DOCTYPE … >` -/
def xmlItems : Nat → Str → Bool
  | 0, s => s.isEmpty
  | _+1, [] => true
  | f+1, c :: r =>
    if isXmlWs c then xmlItems f r
    else if c == 60 then
      if r.head? == some 63 then
        match afterFirst sPiEnd (r.drop 1) with
        | some rest => xmlItems f rest
        | none => false
      else if isPrefixOf sBangDashes r then
        match afterFirst sCommentEnd (r.drop 3) with
        | some rest => xmlItems f rest
        | none => false
      else if isPrefixOf sBangDoctype r then
        match xmlDoctype (r.length + 1) (r.drop 8) with
        | some rest => xmlItems f rest
        | none => false
      else false
    else false

/-- `p` (after an optional byte order mark) is a complete XML prolog -/
def isXmlProlog (p : Str) : Bool := xmlItems (p.length + 1) (dropBom p)

/-- a start tag begins here: `<` and a character that can start a name for the code (`<(?![?!])[^\s/>]`) -/
def startsTag : Str → Bool
  | c :: d :: _ => c == 60 && d != 63 && d != 33 && isRootNameCh d
  | _ => false

/-- offset `k` of `x` is where the XML prolog ends and the document element's start tag begins -/
def PrologAt (x : Str) (k : Nat) : Prop := isXmlProlog (x.take k) = true ∧ startsTag (x.drop k) = true

instance (x : Str) (k : Nat) : Decidable (PrologAt x k) := by unfold PrologAt; infer_instance

/-- **ASSUMPTION about the parser (expat behind defusedxml), not proved.**  `facts x`: what the parser reports about the
    DOCTYPE of the text `x` (the two flags of `XmlMember`).  The doctypedecl is part of the prolog: two texts with the
    same complete prolog, each followed by a start tag, have the same facts. -/
structure DoctypeReader where
  facts : Str → XmlMember
  prolog_decides : ∀ x y k, PrologAt x k → PrologAt y k → x.take k = y.take k → facts x = facts y

/-! ### the model of `__fixXmlPart` keeps prolog and start tag -/

theorem startsTag_take2 : (s : Str) → startsTag (s.take 2) = startsTag s
  | [] => rfl
  | [_] => rfl
  | _ :: _ :: _ => rfl

/-- **C13 (fix_keeps_prolog_at)**: where the prolog found by the code is the XML prolog of the member, the result of
    `__fixXmlPart` has the same prolog at the same offset and a start tag behind it. -/
theorem fix_keeps_prolog_at (x : Str) (h : PrologAt x (prologLen x)) : PrologAt (fixXmlPart x) (prologLen x) := by
  obtain ⟨h1, h2⟩ := h
  refine ⟨?_, ?_⟩
  · rw [fix_prolog_untouched_le x (prologLen x) (by omega)]; exact h1
  · have e : ((fixXmlPart x).drop (prologLen x)).take 2 = (x.drop (prologLen x)).take 2 := by
      have := congrArg (List.drop (prologLen x)) (fix_prolog_untouched x)
      simpa [List.drop_take] using this
    rw [← startsTag_take2, e, startsTag_take2]; exact h2

/-- **C13 (fix_keeps_doctype_facts)**: … so the DOCTYPE facts the parser reports for the text it is given are those
    of the member. -/
theorem fix_keeps_doctype_facts (R : DoctypeReader) (x : Str) (h : PrologAt x (prologLen x)) :
    R.facts (fixXmlPart x) = R.facts x :=
  R.prolog_decides (fixXmlPart x) x (prologLen x) (fix_keeps_prolog_at x h) h
    (fix_prolog_untouched_le x (prologLen x) (by omega))

/-- **C13 (fixed_text_refused)**: a member text whose DOCTYPE declares an entity is refused by a defused parser AFTER the
    pre-processing as it is before. -/
theorem fixed_text_refused (B : ParserBehaviour) (R : DoctypeReader) (api : Api) (x : Str)
    (h : PrologAt x (prologLen x)) (hd : (R.facts x).declaresEntity = true) :
    B.parse (.defused api) (R.facts (fixXmlPart x)) = .error .entitiesForbidden := by
  rw [fix_keeps_doctype_facts R x h]; exact B.defused_refuses_entities api _ hd

/-! ### `Prep` instantiated -/

/-- **`Prep` discharged**: `text m` is any member text the reader classifies as `m` and whose prolog the code finds;
    `fix m` is what the reader reports after the MODEL of `__fixXmlPart` has worked on that text.  `Prep.fix` works on
    the two flags, `fixXmlPart` on text: `text` chooses one text for each of the four flag pairs (a section of
    `R.facts`, `hfacts`), and the theorem holds for every such choice. -/
def prepOfFix (R : DoctypeReader) (text : XmlMember → Str) (hfacts : ∀ m, R.facts (text m) = m)
    (hprolog : ∀ m, PrologAt (text m) (prologLen (text m))) : Prep where
  fix m := R.facts (fixXmlPart (text m))
  preserves m := by rw [fix_keeps_doctype_facts R _ (hprolog m), hfacts m]

/-- **C13 (full statement with the modelled pre-processing)**: `C13_full` with `Prep` := the model of `__fixXmlPart`;
    what is left as hypothesis is the parser (`B`, `R`). -/
theorem C13_full_fix (B : ParserBehaviour) (R : DoctypeReader) (text : XmlMember → Str)
    (hfacts : ∀ m, R.facts (text m) = m) (hprolog : ∀ m, PrologAt (text m) (prologLen (text m))) :
    C13_full B (prepOfFix R text hfacts hprolog) :=
  C13_full_partial B _

/-! ### the side condition on concrete texts; the hypotheses are satisfiable -/

/-- ``<?xml version="1.0"?><!-- <a " --><!DOCTYPE r [<?pi " ?><!-- ]> ' --><!ENTITY a "<b>x]><c>y</c></b>"><!ENTITY % p '<d>"]>'>]><?q <e?><r/>`` — every item the prolog grammar
    allows with `<name`, `"`, `'`, `>` and `]` inside: a comment in front, a processing instruction and a comment inside the
    internal subset, a general and a parameter entity literal, a processing instruction behind the DOCTYPE -/
def w6 : Str := [60, 63, 120, 109, 108, 32, 118, 101, 114, 115, 105, 111, 110, 61, 34, 49, 46, 48, 34, 63, 62, 60, 33, 45, 45, 32, 60, 97, 32, 34, 32, 45, 45, 62, 60, 33, 68, 79, 67, 84, 89, 80, 69, 32, 114, 32, 91, 60, 63, 112, 105, 32, 34, 32, 63, 62, 60, 33, 45, 45, 32, 93, 62, 32, 39, 32, 45, 45, 62, 60, 33, 69, 78, 84, 73, 84, 89, 32, 97, 32, 34, 60, 98, 62, 120, 93, 62, 60, 99, 62, 121, 60, 47, 99, 62, 60, 47, 98, 62, 34, 62, 60, 33, 69, 78, 84, 73, 84, 89, 32, 37, 32, 112, 32, 39, 60, 100, 62, 34, 93, 62, 39, 62, 93, 62, 60, 63, 113, 32, 60, 101, 63, 62, 60, 114, 47, 62]

/-- on `w6` the code's prolog is the XML prolog (133 characters), the document element is `r`, and the result keeps it -/
theorem w6_prolog : prologLen w6 = 133 ∧ PrologAt w6 (prologLen w6) ∧ PrologAt (fixXmlPart w6) 133 := by
  decide +kernel

/-- `w5` of Props/C05.lean satisfies the side condition too -/
theorem w5_prolog : PrologAt w5 (prologLen w5) := by decide +kernel

/-- the excluded class is not empty: a vertical tab in front of the root is white space for Python's `\s`, not for XML -/
theorem vt_not_xml : prologLen [11, 60, 114, 47, 62] = 1 ∧ ¬ PrologAt [11, 60, 114, 47, 62] 1 := by decide +kernel

/-- consistency witness ONLY (not a model of expat): a "reader" that decides from the first character — which belongs to
    the prolog, or is the `<` of the start tag — satisfies `prolog_decides` … -/
def headReader : DoctypeReader where
  facts x := ⟨x.head? == some 32 || x.head? == some 9, x.head? == some 32 || x.head? == some 10⟩
  prolog_decides := by
    intro x y k hx hy he
    have hh : x.head? = y.head? := by
      cases k with
      | zero =>
        have h1 := hx.2; have h2 := hy.2
        simp only [List.drop_zero] at h1 h2
        have hd : ∀ z : Str, startsTag z = true → z.head? = some 60 := by
          intro z hz
          match z, hz with
          | c :: _ :: _, hz => simp [startsTag] at hz; simp [hz.1.1.1]
        rw [hd x h1, hd y h2]
      | succ n =>
        have := congrArg List.head? he
        simpa [List.head?_take] using this
    simp [hh]

/-- … and with it all hypotheses of `prepOfFix` / `C13_full_fix` hold together: four texts ` <r/>`, TAB`<r/>`, LF`<r/>`, `<r/>` -/
example : ∃ (text : XmlMember → Str), (∀ m, headReader.facts (text m) = m) ∧ (∀ m, PrologAt (text m) (prologLen (text m))) := by
  refine ⟨fun m => (match m.declaresEntity, m.externalSubset with
      | true, true => [32] | true, false => [9] | false, true => [10] | false, false => []) ++ [60, 114, 47, 62], ?_, ?_⟩
  · rintro ⟨a, b⟩; cases a <;> cases b <;> decide
  · rintro ⟨a, b⟩; cases a <;> cases b <;> decide +kernel

end OdfModel.Props.C13Prep
