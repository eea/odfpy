/-
  C09, second layer: what each call does to the document state — no invariant yet.  Every statement sequence of
  DomDoc.lean that the theorems of C09 speak about is taken apart here, once: as an equation in stages (`removeChild_runD`,
  `appendChild_runD`, `addText_runD`), as a view that names the few things a call changes (`removeChild_view`,
  `childAttached_view`, `rebuildAll_view`, `lookupStyle_view`), or by the ways it can end (`insertBefore_cases`,
  `rebuildIf_cases`).  Where a statement touches few fields the view gives the state it returns as
  `{ s with edict := e, sdict := d }`: what is not named there is untouched, by `rfl`.  Two frame relations run through all
  of them: `SameLinks` (the heaps differ at most in attribute values) and `Rq` (no qname changed, and what entered the
  style dictionary is a style:style).
-/
import OdfModel.Props.C09Elems
namespace OdfModel.Props.C09
open OdfModel.Dom OdfModel.DomDoc OdfModel.Props.C07 OdfModel.Props.C08

theorem edGet_nil (q : Nat) : edGet [] q = [] := rfl

/-- `edGet` on the index of the state `s` -/
abbrev ed (s : DState) (q : Nat) : List Id := edGet s.edict q

/-! ### two frame relations -/

/-- the heaps differ at most in attribute values -/
def SameLinks (h h' : Heap) : Prop :=
  ∀ y, (h' y).kids = (h y).kids ∧ (h' y).parent = (h y).parent ∧ (h' y).prev = (h y).prev ∧
    (h' y).next = (h y).next ∧ (h' y).kind = (h y).kind ∧ (h' y).qn = (h y).qn

theorem SameLinks.refl (h : Heap) : SameLinks h h := fun _ => ⟨rfl, rfl, rfl, rfl, rfl, rfl⟩

theorem SameLinks.trans {h1 h2 h3 : Heap} (a : SameLinks h1 h2) (b : SameLinks h2 h3) : SameLinks h1 h3 := by
  intro y
  obtain ⟨a1, a2, a3, a4, a5, a6⟩ := a y
  obtain ⟨b1, b2, b3, b4, b5, b6⟩ := b y
  exact ⟨b1.trans a1, b2.trans a2, b3.trans a3, b4.trans a4, b5.trans a5, b6.trans a6⟩

theorem SameLinks.kids {h h' : Heap} (hs : SameLinks h h') (y : Id) : (h' y).kids = (h y).kids := (hs y).1
theorem SameLinks.parent {h h' : Heap} (hs : SameLinks h h') (y : Id) : (h' y).parent = (h y).parent := (hs y).2.1
theorem SameLinks.prev {h h' : Heap} (hs : SameLinks h h') (y : Id) : (h' y).prev = (h y).prev := (hs y).2.2.1
theorem SameLinks.next {h h' : Heap} (hs : SameLinks h h') (y : Id) : (h' y).next = (h y).next := (hs y).2.2.2.1
theorem SameLinks.kind {h h' : Heap} (hs : SameLinks h h') (y : Id) : (h' y).kind = (h y).kind := (hs y).2.2.2.2.1
theorem SameLinks.qn {h h' : Heap} (hs : SameLinks h h') (y : Id) : (h' y).qn = (h y).qn := (hs y).2.2.2.2.2

theorem sameLinks_setAttrs (h : Heap) (x : Id) (v : List (Nat × Nat)) : SameLinks h (setAttrs h x v) := by
  intro y; simp

/-- qnames are unchanged, and every entry of the dictionary afterwards was there before or is a style:style -/
def Rq (s s' : DState) : Prop :=
  (∀ y, (s'.heap y).qn = (s.heap y).qn) ∧
  ∀ p ∈ s'.sdict, p ∈ s.sdict ∨ (s.heap p.2).qn = QN_STYLE

theorem Rq.refl (s : DState) : Rq s s := ⟨fun _ => rfl, fun _ h => Or.inl h⟩

theorem Rq.trans {a b c : DState} (h1 : Rq a b) (h2 : Rq b c) : Rq a c := by
  refine ⟨fun y => (h2.1 y).trans (h1.1 y), fun p h => ?_⟩
  rcases h2.2 p h with h | h
  · exact h1.2 p h
  · rw [h1.1 p.2] at h; exact Or.inr h

theorem Rq.of_same {s s' : DState} (hh : s'.heap = s.heap) (hd : s'.sdict = s.sdict) : Rq s s' :=
  ⟨fun y => by rw [hh], fun p h => by rw [hd] at h; exact Or.inl h⟩

theorem Rq.of_heap (s : DState) {h1 : Heap} (hq : ∀ y, (h1 y).qn = (s.heap y).qn) : Rq s { s with heap := h1 } :=
  ⟨hq, fun _ h => Or.inl h⟩

/-! ### how a statement sequence can end; what a loop keeps -/

theorem run_bind_cases {α β : Type} {m : DM α} {k : α → DM β} {s s' : DState} {r : Except Err β}
    (h : (m >>= k).run s = (s', r)) :
    (∃ e, m.run s = (s', .error e) ∧ r = .error e) ∨ ∃ s1 a, m.run s = (s1, .ok a) ∧ (k a).run s1 = (s', r) := by
  rw [DomDoc.run_bind] at h
  rcases hm : m.run s with ⟨s1, (e | a)⟩ <;> rw [hm] at h
  · cases h; exact Or.inl ⟨e, rfl, rfl⟩
  · exact Or.inr ⟨s1, a, rfl, h⟩

theorem error_ne_recursionError {α β : Type} {e : Err} {r : Except Err α} (hr : r ≠ .error .RecursionError)
    (h : r = .error e) : (.error e : Except Err β) ≠ .error .RecursionError := by
  subst h; intro h; cases h; exact hr rfl

theorem ok_ne_recursionError {α : Type} (a : α) : (.ok a : Except Err α) ≠ .error .RecursionError := by intro h; cases h

theorem run_bind_liftH {α β} (m : M α) (k : α → DM β) (s : DState) :
    (liftH m >>= k).run s = match m.run s.heap with
      | (h', .ok a) => (k a).run { s with heap := h' }
      | (h', .error e) => ({ s with heap := h' }, .error e) := by
  rw [DomDoc.run_bind, run_liftH]
  rcases m.run s.heap with ⟨h', (e | a)⟩ <;> rfl

theorem run_liftH_upd (f : Heap → Heap) (s : DState) :
    (liftH (upd f)).run s = ({ s with heap := f s.heap }, .ok ()) := rfl

theorem run_fresh_bind {α : Type} (i : Id) (k : Unit → DM α) (s : DState) :
    (liftH (fresh i) >>= k).run s = if Blank s.heap i then (k ()).run s else (s, .error .Other) := by
  rw [DomDoc.run_bind, run_liftH, fresh_run]
  by_cases hb : Blank s.heap i <;> simp only [hb, if_true, if_false]

/-- what holds before a sequence guarded by `fresh i` holds after it, if the sequence keeps it when the id is unused -/
theorem fresh_inv {α : Type} {i : Id} {k : Unit → DM α} {s s' : DState} {r : Except Err α} {P : DState → Prop}
    (hP : P s) (h : (liftH (fresh i) >>= k).run s = (s', r)) (hk : Blank s.heap i → (k ()).run s = (s', r) → P s') :
    P s' :=
  guard_inv hP (run_fresh_bind i k s ▸ h) hk

/-- `let _ ← m; pure ()`, the form in which `stepD` runs the two queries -/
theorem discard_cases {α : Type} {m : DM α} {s s' : DState} {r : Except Err Unit}
    (h : (m >>= fun _ => pure ()).run s = (s', r)) :
    ∃ r', m.run s = (s', r') ∧ (r' = .error .RecursionError → r = .error .RecursionError) := by
  rcases run_bind_cases h with ⟨e, hm, he⟩ | ⟨s1, _, hm, h⟩
  · exact ⟨_, hm, fun h => by cases h; exact he⟩
  · cases h; exact ⟨_, hm, fun h => by cases h⟩

theorem liftH_view {α : Type} {m : M α} {s s' : DState} {r : Except Err α} (h : (liftH m).run s = (s', r)) :
    s' = { s with heap := (m.run s.heap).1 } := by
  rw [run_liftH] at h; cases h; rfl

/-- a loop keeps what every round keeps; `ok` restricts the outcomes asked about (a failing round ends the loop with
    its own result) -/
theorem forEach_inv {ok : Except Err Unit → Prop} {P : DState → Prop} {f : Id → DM Unit} (hok : ok (.ok ()))
    (hstep : ∀ {x s s' r}, P s → (f x).run s = (s', r) → ok r → P s') :
    ∀ (l : List Id) (s s' : DState) (r : Except Err Unit), P s → (forEach f l).run s = (s', r) → ok r → P s' := by
  intro l
  induction l with
  | nil => intro s s' r hP hrun _; cases hrun; exact hP
  | cons x rest ih =>
    intro s s' r hP hrun hr
    rcases run_bind_cases hrun with ⟨e, hx, he⟩ | ⟨s1, _, hx, hrest⟩
    · exact hstep hP hx (he ▸ hr)
    · exact ih s1 s' r (hstep hP hx hok) hrest hr

/-! ### the per-node statements and the three traversals -/

/-- the three subtree traversals start with the element list, or raise RecursionError before anything is assigned -/
theorem walk_bind_run {α : Type} (n : Id) (k : List Id → DM α) (s : DState) :
    (walk n >>= k).run s = match elemsUnder s.heap n with
      | some l => (k l).run s
      | none => (s, .error .RecursionError) := by
  have hw : (walk n).run s = walkResult s n := rfl
  rw [DomDoc.run_bind, hw]
  unfold walkResult
  cases elemsUnder s.heap n <;> rfl

theorem edDrop_eq (x : Id) (s : DState) : ∃ e, edDrop x s = { s with edict := e } ∧
    ∀ q, edGet e q = if q = (s.heap x).qn then (ed s q).erase x else ed s q := by
  unfold edDrop
  split
  · refine ⟨_, rfl, fun q => ?_⟩
    rw [edGet_edSet]
    split
    · rename_i hq; rw [hq]
    · rfl
  · rename_i hm
    refine ⟨s.edict, rfl, fun q => ?_⟩
    split
    · rename_i hq; rw [hq, List.erase_of_not_mem hm]
    · rfl

theorem edAppend_eq (x : Id) (s : DState) (q : Nat) :
    ed (edAppend x s) q = if q = (s.heap x).qn then ed s q ++ [x] else ed s q := by
  simp only [ed, edAppend, edGet_edSet]
  split
  · rename_i e; rw [e]
  · rfl

theorem removeOne_view (x : Id) (s : DState) : ∃ e d, (removeOne x).run s = ({ s with edict := e, sdict := d }, .ok ()) ∧
    (∀ p ∈ d, p ∈ s.sdict) ∧ ∀ q, edGet e q = if q = (s.heap x).qn then (ed s q).erase x else ed s q := by
  obtain ⟨e, he, hq⟩ := edDrop_eq x s
  refine ⟨e, ?_⟩
  unfold removeOne dropStyleEntry
  simp only [DomDoc.run_bind_upd, DomDoc.run_bind_rd, he]
  split
  · simp only [DomDoc.run_bind_rd]
    cases lookupAttr KEY_STYLE_NAME (s.heap x).attrs with
    | none => exact ⟨s.sdict, rfl, fun _ h => h, hq⟩
    | some name =>
      simp only [DomDoc.run_bind_rd]
      split
      · exact ⟨_, rfl, fun _ => mem_sdDel, hq⟩
      · exact ⟨s.sdict, rfl, fun _ h => h, hq⟩
  · exact ⟨s.sdict, rfl, fun _ h => h, hq⟩

/-- the membership statement needs lists without repetition: `remove` takes out the first occurrence only -/
theorem runRemove_view : ∀ (l : List Id) (s : DState),
    ∃ e d, (forEach removeOne l).run s = ({ s with edict := e, sdict := d }, .ok ()) ∧ (∀ p ∈ d, p ∈ s.sdict) ∧
    ((∀ q, (ed s q).Nodup) → (∀ q, (edGet e q).Nodup) ∧
      ∀ q y, y ∈ edGet e q ↔ y ∈ ed s q ∧ ¬ (y ∈ l ∧ (s.heap y).qn = q)) := by
  intro l
  induction l with
  | nil => intro s; exact ⟨s.edict, s.sdict, rfl, fun _ h => h, fun hnd => ⟨hnd, fun q y => by simp⟩⟩
  | cons x r ih =>
    intro s
    obtain ⟨e1, d1, hrun1, hsd1, hed1⟩ := removeOne_view x s
    obtain ⟨e, d, hrunR, hsdR, hedR⟩ := ih { s with edict := e1, sdict := d1 }
    refine ⟨e, d, ?_, fun p hp => hsd1 p (hsdR p hp), fun hnd => ?_⟩
    · rw [forEach, DomDoc.run_bind, hrun1]; exact hrunR
    have hnd1 : ∀ q, (edGet e1 q).Nodup := by
      intro q; rw [hed1]; split
      · exact (hnd q).erase x
      · exact hnd q
    -- the first removal takes out exactly `x` under its own qname
    have hmem1 : ∀ q y, y ∈ edGet e1 q ↔ y ∈ ed s q ∧ ¬ (y = x ∧ (s.heap y).qn = q) := by
      intro q y; rw [hed1]; split
      · next hq =>
        rw [(hnd q).mem_erase_iff]
        exact ⟨fun ⟨hne, hm⟩ => ⟨hm, fun h => hne h.1⟩, fun ⟨hm, hn⟩ => ⟨fun e => hn ⟨e, e ▸ hq.symm⟩, hm⟩⟩
      · next hq => exact ⟨fun hm => ⟨hm, fun h => hq (h.1 ▸ h.2.symm)⟩, And.left⟩
    obtain ⟨hndR, hmemR⟩ := hedR hnd1
    refine ⟨hndR, fun q y => ?_⟩
    -- gone is `x` or a member of `r`
    rw [hmemR q y, hmem1, List.mem_cons, or_and_right, not_or, and_assoc]

theorem registeredStyle_view (n : Nat) (s : DState) :
    ∃ d o, (registeredStyle n).run s = ({ s with sdict := d }, .ok o) ∧ (∀ p ∈ d, p ∈ s.sdict) ∧
      ∀ e, o = some e → sdGet s.sdict n = some e ∧ s.owned e = true ∧
        lookupAttr KEY_STYLE_NAME (s.heap e).attrs = some n ∧ underStyles s e = true := by
  unfold registeredStyle DM.run
  dsimp only
  cases sdGet s.sdict n with
  | none => exact ⟨s.sdict, none, rfl, fun _ h => h, fun e h => by cases h⟩
  | some x =>
    by_cases hv : (s.owned x && (lookupAttr KEY_STYLE_NAME (s.heap x).attrs == some n) && underStyles s x) = true
    · refine ⟨s.sdict, some x, if_pos hv, fun _ h => h, fun e h => ?_⟩
      cases h
      have hv' : (s.owned x = true ∧ lookupAttr KEY_STYLE_NAME (s.heap x).attrs = some n) ∧ underStyles s x = true := by
        simpa using hv
      exact ⟨rfl, hv'.1.1, hv'.1.2, hv'.2⟩
    · exact ⟨sdDel s.sdict n, none, if_neg hv, fun _ h => mem_sdDel h, fun e h => by cases h⟩

theorem registerStyle_view (x : Id) (s : DState) :
    ∃ h d f, (registerStyle x).run s = ({ s with heap := h, sdict := d, fix := f }, .ok ()) ∧
      SameLinks s.heap h ∧ ∀ p ∈ d, p ∈ s.sdict ∨ p.2 = x := by
  have hid : ∃ h d f, ((s, .ok ()) : DState × Except Err Unit) = ({ s with heap := h, sdict := d, fix := f }, .ok ()) ∧
      SameLinks s.heap h ∧ ∀ p ∈ d, p ∈ s.sdict ∨ p.2 = x :=
    ⟨s.heap, s.sdict, s.fix, rfl, SameLinks.refl _, fun _ h => Or.inl h⟩
  unfold registerStyle
  simp only [DomDoc.run_bind_rd]
  cases lookupAttr KEY_STYLE_NAME (s.heap x).attrs with
  | none => exact hid
  | some name =>
    simp only [DomDoc.run_bind_rd]
    cases (s.heap x).parent with
    | none => exact hid
    | some pp =>
      simp only [DomDoc.run_bind_rd]
      by_cases hpq : (s.heap pp).qn = QN_STYLES ∨ (s.heap pp).qn = QN_AUTOSTYLES
      · obtain ⟨d, o, hr, hd, _⟩ := registeredStyle_view name s
        rw [if_pos hpq, DomDoc.run_bind, hr]
        dsimp only
        have hset : ∀ nm, ∀ p ∈ sdSet d nm x, p ∈ s.sdict ∨ p.2 = x := by
          intro nm p hp
          rcases mem_sdSet hp with h | h
          · exact Or.inl (hd p h)
          · rw [h]; exact Or.inr rfl
        by_cases hcl : o ≠ none ∧ o ≠ some x
        · rw [if_pos hcl]
          exact ⟨_, _, _, rfl, sameLinks_setAttrs _ _ _, hset _⟩
        · rw [if_neg hcl]
          exact ⟨s.heap, _, s.fix, rfl, SameLinks.refl _, hset _⟩
      · rw [if_neg hpq]; exact hid

theorem buildCaches_view (x : Id) (s : DState) :
    ∃ h e d f, (buildCaches x).run s = ({ s with heap := h, edict := e, sdict := d, fix := f }, .ok ()) ∧
      SameLinks s.heap h ∧ (∀ p ∈ d, p ∈ s.sdict ∨ (s.heap p.2).qn = QN_STYLE) ∧
      ∀ q, edGet e q = if q = (s.heap x).qn then ed s q ++ [x] else ed s q := by
  -- `__register_stylename(elt)` for a style:style
  have h1 : ∃ h d f, (registerIfStyle x).run (edAppend x s) = ({ edAppend x s with heap := h, sdict := d, fix := f }, .ok ()) ∧
      SameLinks s.heap h ∧ ∀ p ∈ d, p ∈ s.sdict ∨ (s.heap p.2).qn = QN_STYLE := by
    unfold registerIfStyle
    simp only [DomDoc.run_bind_rd]
    split
    · rename_i hq
      obtain ⟨h, d, f, hr, hsame, hsd⟩ := registerStyle_view x (edAppend x s)
      exact ⟨h, d, f, hr, hsame, fun p hp => (hsd p hp).imp id (fun (e : p.2 = x) => by rw [e]; exact hq)⟩
    · exact ⟨s.heap, s.sdict, s.fix, rfl, SameLinks.refl _, fun _ h => Or.inl h⟩
  obtain ⟨h1, d, f, hr1, hsame, hsd⟩ := h1
  unfold buildCaches
  simp only [DomDoc.run_bind_upd]
  rw [DomDoc.run_bind, hr1]
  -- the style reference of `elt`
  unfold fixStyleRef
  simp only [DomDoc.run_bind_rd]
  cases lookupAttr KEY_TEXT_STYLE_NAME (h1 x).attrs with
  | none => exact ⟨h1, _, d, f, rfl, hsame, hsd, edAppend_eq x s⟩
  | some r =>
    simp only [DomDoc.run_bind_rd]
    cases lookupAttr r f with
    | none => exact ⟨h1, _, d, f, rfl, hsame, hsd, edAppend_eq x s⟩
    | some nw => exact ⟨_, _, d, f, rfl, SameLinks.trans hsame (sameLinks_setAttrs h1 x _), hsd, edAppend_eq x s⟩

theorem runBuild_view : ∀ (l : List Id) (s : DState), ∃ s', (forEach buildCaches l).run s = (s', .ok ()) ∧
    SameLinks s.heap s'.heap ∧ s'.ownedL = s.ownedL ∧ s'.top = s.top ∧ Rq s s' ∧
    (∀ q, ed s' q = ed s q ++ l.filter (fun y => (s.heap y).qn = q)) := by
  intro l
  induction l with
  | nil => intro s; exact ⟨s, rfl, SameLinks.refl _, rfl, rfl, Rq.refl s, fun q => by simp⟩
  | cons x r ih =>
    intro s
    obtain ⟨h1, e1, d1, f1, hr, hsame1, hsd1, hed1⟩ := buildCaches_view x s
    obtain ⟨s', hr', hsame, hown, htop, hrq, hindex⟩ := ih { s with heap := h1, edict := e1, sdict := d1, fix := f1 }
    have hq := hsame1.qn
    refine ⟨s', ?_, SameLinks.trans hsame1 hsame, hown, htop, Rq.trans ⟨hq, hsd1⟩ hrq, fun q => (hindex q).trans ?_⟩
    · rw [forEach, DomDoc.run_bind, hr]; exact hr'
    show edGet e1 q ++ r.filter (fun y => (h1 y).qn = q) = _
    rw [hed1 q]
    simp only [hq, List.filter_cons]
    by_cases hq : q = (s.heap x).qn
    · subst hq; simp
    · simp [hq, Ne.symm hq]

theorem owned_congr {s s' : DState} (h : s'.ownedL = s.ownedL) (y : Id) : s'.owned y = s.owned y := by
  unfold DState.owned; rw [h]

theorem runOwned_view (v : Bool) : ∀ (l : List Id) (s : DState),
    ∃ o, (forEach (fun x => updD fun s => setOwned s x v) l).run s = ({ s with ownedL := o }, .ok ()) ∧
      ∀ y, DState.owned { s with ownedL := o } y = if y ∈ l then v else s.owned y := by
  intro l
  induction l with
  | nil => intro s; exact ⟨s.ownedL, rfl, fun y => by simp⟩
  | cons x r ih =>
    intro s
    obtain ⟨o, hrun, howned⟩ := ih (setOwned s x v)
    refine ⟨o, hrun, fun y => ?_⟩
    show DState.owned { setOwned s x v with ownedL := o } y = _
    rw [howned y, owned_setOwned]
    by_cases hyr : y ∈ r
    · simp [hyr]
    · by_cases hyx : y = x
      · simp [hyx]
      · simp [hyr, hyx]

/-! ### removeChild: the five link assignments, then the indexes and owners, then the parent link -/

/-- `rmHeap` without its last assignment `c.parentNode = None`: `DomDoc.removeChild` updates the document's indexes
    between the fifth assignment and the sixth -/
def rm5 (h : Heap) (p c : Id) : Heap :=
  setPrev (setNext
    (setNextOpt (setPrevOpt (setKids h p ((h p).kids.erase c)) (h c).next (h c).prev) (h c).prev (h c).next)
    c none) c none

theorem rmHeap_eq (h : Heap) (p c : Id) : rmHeap h p c = setParent (rm5 h p c) c none := rfl

theorem rm5_apply (h : Heap) (p c x : Id) : rm5 h p c x = { rmHeap h p c x with parent := (h x).parent } := by
  rw [rmHeap_apply]; simp [rm5]

theorem unlink_run (p c : Id) (h : Heap) : (unlink p c).run h = (rm5 h p c, .ok ()) := by
  unfold unlink rm5; simp

theorem dropFromIndexes_text {p c : Id} {s : DState} (hk : (s.heap c).kind ≠ .elem) :
    (dropFromIndexes p c).run s = (s, .ok ()) := by
  unfold dropFromIndexes
  simp only [DomDoc.run_bind_rd]
  have : (s.owned p && decide ((s.heap c).kind = .elem)) = false := by simp [hk]
  simp only [this, Bool.false_eq_true, if_false]
  rw [setOwnerRec, walk_bind_run, elemsUnder_text hk]
  rfl

/-- the index has lost the elements `l` if `p` was owned, and they have lost their owner; the top node stays.  The index
    clause asks for duplicate-free lists, because `list.remove` takes out the first occurrence only (`runRemove_view`). -/
structure Dropped (s s' : DState) (p : Id) (l : List Id) : Prop where
  top : s'.top = s.top
  index : (∀ q, (ed s q).Nodup) → (∀ q, (ed s' q).Nodup) ∧
    ∀ q y, y ∈ ed s' q ↔ y ∈ ed s q ∧ ¬ (s.owned p = true ∧ y ∈ l ∧ (s.heap y).qn = q)
  owned : ∀ y, s'.owned y = if y ∈ l then false else s.owned y

/-- `remove_from_caches(c)` (run if `p` is owned), then `_set_owner(c, None)`.  `l` lists the elements at or below `c`;
    the heap stays. -/
theorem dropFromIndexes_view {p c : Id} {s s' : DState} {r : Except Err Unit}
    (hrun : (dropFromIndexes p c).run s = (s', r)) :
    Rq s s' ∧ ((r = .error .RecursionError ∧ s' = s) ∨
    (r = .ok () ∧ ∃ l, elemsUnder s.heap c = some l ∧ s'.heap = s.heap ∧ Dropped s s' p l)) := by
  by_cases hk : (s.heap c).kind = .elem
  · -- an element: the guard is the ownership of `p`
    unfold dropFromIndexes at hrun
    simp only [DomDoc.run_bind_rd, hk, decide_true, Bool.and_true] at hrun
    cases hl : elemsUnder s.heap c with
    | none =>
      -- whichever of the two traversals comes first raises before anything is assigned
      have : s' = s ∧ r = .error .RecursionError := by
        split at hrun
        · rw [DomDoc.run_bind, removeFromCaches, walk_bind_run, hl] at hrun
          cases hrun
          exact ⟨rfl, rfl⟩
        · rw [setOwnerRec, walk_bind_run, hl] at hrun
          cases hrun
          exact ⟨rfl, rfl⟩
      rw [this.1]
      exact ⟨Rq.refl s, Or.inl ⟨this.2, rfl⟩⟩
    | some l =>
      cases ho : s.owned p with
      | true =>
        simp only [ho, if_true] at hrun
        rw [DomDoc.run_bind, removeFromCaches, walk_bind_run, hl] at hrun
        obtain ⟨e, d, hremove, hsd, hindex⟩ := runRemove_view l s
        simp only [hremove] at hrun
        rw [setOwnerRec, walk_bind_run] at hrun
        simp only [hl] at hrun
        obtain ⟨o, hown, howned⟩ := runOwned_view false l { s with edict := e, sdict := d }
        rw [hown] at hrun
        cases hrun
        refine ⟨⟨fun _ => rfl, fun p hp => Or.inl (hsd p hp)⟩,
          Or.inr ⟨rfl, l, rfl, rfl, { top := rfl, index := fun hnd => ?_, owned := howned }⟩⟩
        obtain ⟨hnodup, hmem⟩ := hindex hnd
        exact ⟨hnodup, fun q y => (hmem q y).trans (by simp [ho])⟩
      | false =>
        simp only [ho, if_false, Bool.false_eq_true] at hrun
        rw [setOwnerRec, walk_bind_run, hl] at hrun
        obtain ⟨o, hown, howned⟩ := runOwned_view false l s
        simp only [hown] at hrun
        cases hrun
        exact ⟨Rq.of_same rfl rfl, Or.inr ⟨rfl, l, rfl, rfl,
          { top := rfl, index := fun hnd => ⟨hnd, fun q y => by simp [ho, ed]⟩, owned := howned }⟩⟩
  · -- a text node: nothing below it, nothing happens
    rw [dropFromIndexes_text hk] at hrun
    cases hrun
    exact ⟨Rq.refl s, Or.inr ⟨rfl, [], elemsUnder_text hk, rfl,
      { top := rfl, index := fun hnd => ⟨hnd, fun q y => by simp⟩, owned := fun y => by simp }⟩⟩

theorem removeChild_runD (p c : Id) (s : DState) : (DomDoc.removeChild p c).run s =
    if (s.heap p).kind = .elem ∧ c ∈ (s.heap p).kids then
      match (dropFromIndexes p c).run { s with heap := rm5 s.heap p c } with
      | (s2, .ok _) => ({ s2 with heap := setParent s2.heap c none }, .ok ())
      | (s2, .error e) => (s2, .error e)
    else (s, .error .NotFound) := by
  unfold DomDoc.removeChild
  by_cases hk : (s.heap p).kind = .elem
  · by_cases hc : c ∈ (s.heap p).kids
    · -- both checks pass: the five link assignments, the indexes, then `c.parentNode = None`
      simp only [DomDoc.run_bind_rd, hk, hc, ne_eq, not_true, if_false, decide_true, Bool.not_true, Bool.false_eq_true,
        and_self, if_true]
      rw [run_bind_liftH, unlink_run]
      simp only
      rw [DomDoc.run_bind]
      rcases (dropFromIndexes p c).run { s with heap := rm5 s.heap p c } with ⟨s2, (e | u)⟩ <;> rfl
    · simp [hk, hc]
  · simp [hk]

/-- the three ways `removeChild` ends.  When it succeeds the heap is `rmHeap` itself (no attribute is written), `l` lists
    the elements at or below `c` in it, and index and owners change as in `dropFromIndexes_view`. -/
theorem removeChild_view {p c : Id} {s s' : DState} {r : Except Err Unit}
    (hrun : (DomDoc.removeChild p c).run s = (s', r)) :
    Rq s s' ∧ ((s' = s ∧ r = .error .NotFound) ∨ r = .error .RecursionError ∨
    (r = .ok () ∧ ((s.heap p).kind = .elem ∧ c ∈ (s.heap p).kids) ∧
      ∃ l, elemsUnder (rmHeap s.heap p c) c = some l ∧ s'.heap = rmHeap s.heap p c ∧ Dropped s s' p l)) := by
  rw [removeChild_runD] at hrun
  split at hrun
  · rename_i hkc
    rcases hd : (dropFromIndexes p c).run { s with heap := rm5 s.heap p c } with ⟨s2, r2⟩
    rw [hd] at hrun
    have hq0 := Rq.of_heap s (h1 := rm5 s.heap p c) fun y => by rw [rm5_apply, rmHeap_apply]
    obtain ⟨hq, ⟨hrec, _⟩ | ⟨hok, l, hl, hheap, hdrop⟩⟩ := dropFromIndexes_view hd
    · subst hrec
      cases hrun
      exact ⟨Rq.trans hq0 hq, Or.inr (Or.inl rfl)⟩
    · subst hok
      cases hrun
      refine ⟨Rq.trans hq0 (Rq.trans hq (Rq.of_heap s2 fun y => by simp)),
        Or.inr (Or.inr ⟨rfl, hkc, l, ?_, ?_,
          { top := hdrop.top, index := fun hnd => ⟨(hdrop.index hnd).1, fun q y => ?_⟩, owned := hdrop.owned }⟩)⟩
      · unfold elemsUnder at hl ⊢
        rw [elems_congr (h := rm5 s.heap p c) (fun y => by rw [rm5_apply]; exact ⟨rfl, rfl⟩) FUEL c]; exact hl
      · show setParent s2.heap c none = rmHeap s.heap p c
        rw [hheap, rmHeap_eq]
      · have := (hdrop.index hnd).2 q y
        rw [hq0.1 y] at this
        exact this
  · cases hrun; exact ⟨Rq.refl s, Or.inl ⟨rfl, rfl⟩⟩

/-- **C09 ("text nodes can be … removed like any other node")**: removing a text or CDATA child
    never touches the indexes or any ownerDocument, and does not run into the recursion budget; it
    is refused only when the node is not a child (NotFoundErr) -/
theorem text_node_remove_keeps_index {p c : Id} {s s' : DState} {r : Except Err Unit}
    (hk : (s.heap c).kind ≠ .elem) (hrun : (DomDoc.removeChild p c).run s = (s', r)) :
    s'.edict = s.edict ∧ s'.sdict = s.sdict ∧ s'.ownedL = s.ownedL ∧
    (r = .ok () ∨ (r = .error .NotFound ∧ s' = s)) := by
  rw [removeChild_runD] at hrun
  split at hrun
  · rw [dropFromIndexes_text (by
      show (rm5 s.heap p c c).kind ≠ .elem
      rw [rm5_apply, rmHeap_apply]; exact hk)] at hrun
    cases hrun
    exact ⟨rfl, rfl, rfl, Or.inl rfl⟩
  · cases hrun; exact ⟨rfl, rfl, rfl, Or.inr ⟨rfl, rfl⟩⟩

/-! ### _child_attached, appendChild, insertBefore -/

theorem childAttached_text {p c : Id} {s : DState} (hk : (s.heap c).kind ≠ .elem) :
    (childAttached p c).run s = (s, .ok ()) := by
  unfold childAttached
  simp only [DomDoc.run_bind_rd]
  rw [DomDoc.run_bind, setOwnerRec, walk_bind_run, elemsUnder_text hk]
  simp only [forEach, DomDoc.run_pure, DomDoc.run_bind_rd]
  have : (s.owned p && decide ((s.heap c).kind = .elem)) = false := by simp [hk]
  simp [this]

/-- `_child_attached`.  `l` lists the elements at or below `c`: they get the owner of `p`, and if `p` is owned the index
    gains them in document order.  The heap is given up to `SameLinks` only, because `build_caches` may rewrite
    attribute values (a style renamed to 'M'+name on a clash, a text:style-name that follows such a rename). -/
theorem childAttached_view {p c : Id} {s s' : DState} {r : Except Err Unit}
    (hrun : (childAttached p c).run s = (s', r)) :
    Rq s s' ∧ ((r = .error .RecursionError ∧ s' = s ∧ elemsUnder s.heap c = none) ∨
    (r = .ok () ∧ ∃ l, elemsUnder s.heap c = some l ∧ SameLinks s.heap s'.heap ∧ s'.top = s.top ∧
      (∀ q, ed s' q = if s.owned p = true then ed s q ++ l.filter (fun y => (s.heap y).qn = q) else ed s q) ∧
      (∀ y, s'.owned y = if y ∈ l then s.owned p else s.owned y))) := by
  by_cases hk : (s.heap c).kind = .elem
  · -- an element: the guard is the ownership of `p`
    unfold childAttached at hrun
    simp only [DomDoc.run_bind_rd] at hrun
    rw [DomDoc.run_bind, setOwnerRec, walk_bind_run] at hrun
    cases hl : elemsUnder s.heap c with
    | none => rw [hl] at hrun; cases hrun; exact ⟨Rq.refl s, Or.inl ⟨rfl, rfl, rfl⟩⟩
    | some l =>
      rw [hl] at hrun
      obtain ⟨o, hown, howned⟩ := runOwned_view (s.owned p) l s
      simp only [hown, DomDoc.run_bind_rd, hk, decide_true, Bool.and_true] at hrun
      by_cases ho : s.owned p = true
      · rw [if_pos ho, rebuildCaches, walk_bind_run] at hrun
        simp only [hl] at hrun
        obtain ⟨s2, hbuild, hsame, hownL, htop, hrq, hindex⟩ := runBuild_view l { s with ownedL := o }
        rw [hbuild] at hrun
        cases hrun
        exact ⟨hrq, Or.inr ⟨rfl, l, rfl, hsame, htop, fun q => (hindex q).trans (by simp [ho]),
          fun y => (owned_congr hownL y).trans (howned y)⟩⟩
      · rw [if_neg ho, DomDoc.run_pure] at hrun
        cases hrun
        exact ⟨Rq.of_same rfl rfl, Or.inr ⟨rfl, l, rfl, SameLinks.refl _, rfl, fun q => by simp [ho], howned⟩⟩
  · -- a text node: nothing below it, nothing happens
    rw [childAttached_text hk] at hrun
    cases hrun
    exact ⟨Rq.refl s, Or.inr ⟨rfl, [], elemsUnder_text hk, SameLinks.refl _, rfl, fun q => by simp, fun y => by simp⟩⟩

theorem detachIfAttached_rq {c : Id} {s s' : DState} {r : Except Err Unit}
    (hrun : (DomDoc.detachIfAttached c).run s = (s', r)) : Rq s s' := by
  unfold DomDoc.detachIfAttached at hrun
  simp only [DomDoc.run_bind_rd] at hrun
  cases hp : (s.heap c).parent with
  | none => rw [hp] at hrun; cases hrun; exact Rq.refl s
  | some q => rw [hp] at hrun; exact (removeChild_view hrun).1

theorem appendChild_runD (p c : Id) (s : DState) : (DomDoc.appendChild p c).run s =
    if (s.heap p).kind = .elem then
      match (DomDoc.detachIfAttached c).run s with
      | (s0, .ok _) => (childAttached p c).run { s0 with heap := setNext (appRawHeap s0.heap p c) c none }
      | (s0, .error e) => (s0, .error e)
    else (s, .error .Hierarchy) := by
  unfold DomDoc.appendChild
  simp only [DomDoc.run_bind_rd]
  by_cases hk : (s.heap p).kind = .elem
  · simp only [hk, ne_eq, not_true, if_false, if_true]
    rw [DomDoc.run_bind]
    rcases (DomDoc.detachIfAttached c).run s with ⟨s0, (e | u)⟩
    · rfl
    · simp only
      rw [run_bind_liftH, appendRaw_run]
      simp only
      rw [run_bind_liftH, Dom.run_upd]
  · simp [hk]

theorem appendChild_runD_detached {p c : Id} {s : DState} (hkp : (s.heap p).kind = .elem)
    (hdet : (s.heap c).parent = none) : (DomDoc.appendChild p c).run s =
      (childAttached p c).run { s with heap := setNext (appRawHeap s.heap p c) c none } := by
  have hd : (DomDoc.detachIfAttached c).run s = (s, .ok ()) := by
    unfold DomDoc.detachIfAttached
    simp only [DomDoc.run_bind_rd, hdet]; rfl
  rw [appendChild_runD, if_pos hkp, hd]

theorem appendChild_rq {p c : Id} {s s' : DState} {r : Except Err Unit}
    (hrun : (DomDoc.appendChild p c).run s = (s', r)) : Rq s s' := by
  refine guard_inv (Rq.refl s) (appendChild_runD p c s ▸ hrun) fun _ hrun => ?_
  rcases hd : (DomDoc.detachIfAttached c).run s with ⟨s0, (e | u)⟩ <;> rw [hd] at hrun
  · cases hrun; exact detachIfAttached_rq hd
  · exact Rq.trans (detachIfAttached_rq hd)
      (Rq.trans (Rq.of_heap s0 fun y => by rw [app_apply]) (childAttached_view hrun).1)

/-- **C09 ("text nodes can be added [and] moved … like any other node")**: appending a detached
    text or CDATA node to an element succeeds and touches neither index nor ownerDocument -/
theorem text_node_append_keeps_index {p c : Id} {s s' : DState} {r : Except Err Unit}
    (hkp : (s.heap p).kind = .elem) (hk : (s.heap c).kind ≠ .elem) (hdet : (s.heap c).parent = none)
    (hrun : (DomDoc.appendChild p c).run s = (s', r)) :
    r = .ok () ∧ s'.edict = s.edict ∧ s'.sdict = s.sdict ∧ s'.ownedL = s.ownedL := by
  rw [appendChild_runD_detached hkp hdet, childAttached_text (by
    show (setNext (appRawHeap s.heap p c) c none c).kind ≠ .elem
    rw [app_apply]; exact hk)] at hrun
  cases hrun
  exact ⟨rfl, rfl, rfl, rfl⟩

/-- `s' = s`: refused or trivial; `s' = s0`: refused after the detachment (the reference child is no longer listed) -/
theorem insertBefore_cases {p n : Id} {ref : Option Id} {s s' : DState} {r : Except Err Unit}
    (hrun : (DomDoc.insertBefore p n ref).run s = (s', r)) :
    s' = s ∨ ((s.heap p).kind = .elem ∧
      ((∃ e, (DomDoc.detachIfAttached n).run s = (s', .error e) ∧ r = .error e) ∨
        ∃ s0, (DomDoc.detachIfAttached n).run s = (s0, .ok ()) ∧
          (s' = s0 ∨ (ref = none ∧ (DomDoc.appendChild p n).run s0 = (s', r)) ∨
            ∃ rf, rf ∈ (s0.heap p).kids ∧
              (childAttached p n).run { s0 with heap := insHeap s0.heap p n rf } = (s', r)))) := by
  unfold DomDoc.insertBefore at hrun
  simp only [DomDoc.run_bind_rd] at hrun
  by_cases hk : (s.heap p).kind = .elem
  · simp only [hk, ne_eq, not_true, if_false] at hrun
    rw [run_bind_liftH, checkRef_run] at hrun
    by_cases hro : RefOk s.heap p ref
    · simp only [hro, if_true] at hrun
      by_cases hrn : ref = some n
      · simp only [hrn, if_true, DomDoc.run_pure] at hrun
        cases hrun; exact Or.inl rfl
      · simp only [hrn, if_false] at hrun
        refine Or.inr ⟨hk, (run_bind_cases hrun).imp id ?_⟩
        rintro ⟨s0, _, hd, hrun⟩
        refine ⟨s0, hd, ?_⟩
        cases ref with
        | none => exact Or.inr (Or.inl ⟨rfl, hrun⟩)
        | some rf =>
          rw [run_bind_liftH, insertAtRef_run] at hrun
          by_cases hrf : rf ∈ (s0.heap p).kids
          · simp only [hrf, if_true] at hrun
            exact Or.inr (Or.inr ⟨rf, hrf, hrun⟩)
          · simp only [hrf, if_false] at hrun
            cases hrun; exact Or.inl rfl
    · simp only [hro, if_false] at hrun
      cases hrun; exact Or.inl rfl
  · rw [if_pos hk, DomDoc.run_bind_raise] at hrun
    cases hrun; exact Or.inl rfl

theorem insertBefore_rq {p n : Id} {ref : Option Id} {s s' : DState} {r : Except Err Unit}
    (hrun : (DomDoc.insertBefore p n ref).run s = (s', r)) : Rq s s' := by
  rcases insertBefore_cases hrun with rfl | ⟨_, ⟨_, hd, _⟩ | ⟨s0, hd, rfl | ⟨_, ha⟩ | ⟨rf, _, hc⟩⟩⟩
  · exact Rq.refl _
  · exact detachIfAttached_rq hd
  · exact detachIfAttached_rq hd
  · exact Rq.trans (detachIfAttached_rq hd) (appendChild_rq ha)
  · exact Rq.trans (detachIfAttached_rq hd)
      (Rq.trans (Rq.of_heap s0 fun y => by rw [insHeap_apply]) (childAttached_view hc).1)

/-! ### object creation, the add* wrappers -/

theorem newNode_run (i : Id) (k : Kind) (qn : Nat) (s : DState) : (stepD (.tree (.newNode i k qn))).run s =
    if Blank s.heap i then ({ s with heap := s.heap.set i { kind := k, qn := qn } }, .ok ())
    else (s, .error .Other) := by
  simp only [stepD, Dom.step]
  rw [run_liftH, Dom.run_bind, fresh_run]
  by_cases hb : Blank s.heap i <;> simp only [hb, if_true, if_false, initNode_run]

theorem addElement_runD (p c : Id) (a : Bool) (s : DState) : (DomDoc.addElement p c a).run s =
    if a = true then (DomDoc.appendChild p c).run s else (s, .error .IllegalChild) := by
  cases a <;> simp [DomDoc.addElement]

theorem addText_runD (p t : Id) (a ne : Bool) (s : DState) : (DomDoc.addText p t a ne).run s =
    if a = true then
      if ne = true then (DomDoc.appendChild p t).run { s with heap := s.heap.set t { kind := .text, qn := 0 } }
      else (s, .ok ())
    else (s, .error .IllegalText) := by
  cases a <;> cases ne <;> simp [DomDoc.addText, run_bind_liftH, initNode_run]

theorem addCDATA_runD (p t : Id) (a : Bool) (s : DState) : (DomDoc.addCDATA p t a).run s =
    if a = true then (DomDoc.appendChild p t).run { s with heap := s.heap.set t { kind := .cdata, qn := 0 } }
    else (s, .error .IllegalText) := by
  cases a <;> simp [DomDoc.addCDATA, run_bind_liftH, initNode_run]

/-- the element an attribute call writes to -/
def attrOn : Op → Option Id
  | .setAttribute e .. | .setAttrNS e .. | .removeAttribute e .. => some e
  | _ => none

/-- the three attribute calls, in a document, change attribute values only -/
theorem attrOp_sameLinks {s s' : DState} {r : Except Err Unit} {e : Id} {op : Op} (ha : attrOn op = some e)
    (hrun : (stepD (.tree op)).run s = (s', r)) : s' = { s with heap := s'.heap } ∧ SameLinks s.heap s'.heap := by
  cases op with
  | setAttribute e k t a key conv =>
    obtain rfl := liftH_view hrun
    exact ⟨rfl, setAttribute_keeps (SameLinks.refl _) (sameLinks_setAttrs _ e) k t a key conv⟩
  | setAttrNS e key conv =>
    obtain rfl := liftH_view hrun
    exact ⟨rfl, setAttrNS_keeps (SameLinks.refl _) (sameLinks_setAttrs _ e) key conv⟩
  | removeAttribute e k t a key =>
    obtain rfl := liftH_view hrun
    exact ⟨rfl, removeAttribute_keeps (SameLinks.refl _) (sameLinks_setAttrs _ e) k t a key⟩
  | _ => cases ha

theorem addElement_rq {p c : Id} {a : Bool} {s s' : DState} {r : Except Err Unit}
    (hrun : (DomDoc.addElement p c a).run s = (s', r)) : Rq s s' :=
  guard_inv (Rq.refl s) (addElement_runD p c a s ▸ hrun) fun _ => appendChild_rq

/-- the body of the loop of `__replaceGenerator`: `if m is a meta:generator element: meta.removeChild(m)` -/
def dropGenerator (mt m : Id) : DM Unit := do
  if (← rdD fun s => decide ((s.heap m).kind = .elem) && decide ((s.heap m).qn = QN_GENERATOR)) then
    DomDoc.removeChild mt m

theorem dropGenerator_cases {mt m : Id} {s s' : DState} {r : Except Err Unit}
    (h : (dropGenerator mt m).run s = (s', r)) :
    (DomDoc.removeChild mt m).run s = (s', r) ∨ (s' = s ∧ r = .ok ()) := by
  unfold dropGenerator at h
  simp only [DomDoc.run_bind_rd] at h
  split at h
  · exact .inl h
  · cases h; exact .inr ⟨rfl, rfl⟩

theorem dropGenerator_rq {mt m : Id} {s s' : DState} {r : Except Err Unit}
    (h : (dropGenerator mt m).run s = (s', r)) : Rq s s' := by
  rcases dropGenerator_cases h with hrm | ⟨rfl, -⟩
  · exact (removeChild_view hrm).1
  · exact Rq.refl _

theorem replaceGenerator_eq (mt g t : Id) : replaceGenerator mt g t = (do
    let ms ← rdD fun s => (s.heap mt).kids
    forEach (dropGenerator mt) ms
    liftH (initNode g .elem QN_GENERATOR)
    DomDoc.addText g t true true
    DomDoc.addElement mt g true) := rfl

/-! ### rebuilding the indexes from the top; the two document-level queries -/

theorem rebuildAll_view {s s' : DState} {r : Except Err Unit} (hrun : (rebuildAll).run s = (s', r)) :
    Rq s s' ∧ (r = .error .RecursionError ∨
    (r = .ok () ∧ ∃ l, elemsUnder s.heap s.top = some l ∧ SameLinks s.heap s'.heap ∧ s'.ownedL = s.ownedL ∧
      s'.top = s.top ∧ ∀ q, ed s' q = l.filter (fun y => (s.heap y).qn = q))) := by
  unfold rebuildAll at hrun
  simp only [DomDoc.run_bind_upd, DomDoc.run_bind_rd] at hrun
  rw [rebuildCaches, walk_bind_run] at hrun
  have h0 : Rq s { s with edict := [], sdict := [] } := ⟨fun _ => rfl, fun p hp => by cases hp⟩
  cases hl : elemsUnder s.heap s.top with
  | none => simp only [hl] at hrun; cases hrun; exact ⟨h0, Or.inl rfl⟩
  | some l =>
    obtain ⟨s2, hbuild, hsame, hownL, htop, hrq, hindex⟩ := runBuild_view l { s with edict := [], sdict := [] }
    simp only [hl, hbuild] at hrun
    cases hrun
    exact ⟨Rq.trans h0 hrq, Or.inr ⟨rfl, l, rfl, hsame, hownL, htop, fun q => by rw [hindex q]; simp [ed, edGet_nil]⟩⟩

/-- `if dict == {}: self.rebuild_caches()` in front of a query -/
theorem rebuildIf_cases {α : Type} {c : DState → Bool} {k : Unit → DM α} {s s' : DState} {r : Except Err α}
    (h : (rdD c >>= fun b => if b = true then rebuildAll >>= k else k ()).run s = (s', r)) :
    (k ()).run s = (s', r) ∨ (∃ e, rebuildAll.run s = (s', .error e) ∧ r = .error e) ∨
      ∃ s1, rebuildAll.run s = (s1, .ok ()) ∧ (k ()).run s1 = (s', r) := by
  simp only [DomDoc.run_bind_rd] at h
  cases hc : c s <;> simp only [hc, if_true, if_false, Bool.false_eq_true] at h
  · exact Or.inl h
  · rcases run_bind_cases h with h1 | ⟨s1, _, h1, h2⟩
    · exact Or.inr (Or.inl h1)
    · exact Or.inr (Or.inr ⟨s1, h1, h2⟩)

theorem docByType_rq {q : Nat} {s s' : DState} {r : Except Err (List Id)}
    (hrun : (docByType q).run s = (s', r)) : Rq s s' := by
  rcases rebuildIf_cases hrun with h | ⟨e, hb, _⟩ | ⟨s1, hb, h⟩
  · cases h; exact Rq.refl s
  · exact (rebuildAll_view hb).1
  · cases h; exact (rebuildAll_view hb).1

theorem scanStyles_eq (s : DState) (n : Nat) (l : List Id) : scanStyles s n l =
    l.find? fun e => decide (lookupAttr KEY_STYLE_NAME (s.heap e).attrs = some n) && underStyles s e := by
  induction l with
  | nil => rfl
  | cons a r ih =>
    rw [scanStyles, List.find?_cons, ih]
    split <;> simp [*]

theorem scanStyles_spec {s : DState} {n : Nat} {l : List Id} {o : Option Id} (h : scanStyles s n l = o) :
    (∀ e, o = some e → e ∈ l ∧ lookupAttr KEY_STYLE_NAME (s.heap e).attrs = some n ∧ underStyles s e = true) ∧
    (o = none → ∀ y ∈ l, ¬ (lookupAttr KEY_STYLE_NAME (s.heap y).attrs = some n ∧ underStyles s y = true)) := by
  rw [scanStyles_eq] at h
  subst h
  exact ⟨fun e he => ⟨List.mem_of_find?_eq_some he, by simpa using List.find?_some he⟩,
    fun ho y hy => by simpa using List.find?_eq_none.mp ho y hy⟩

/-- the part of `getStyleByName` after the optional rebuild: `__registered_style`, then the scan of the
    style:style index list -/
def lookupStyle (n : Nat) : DM (Option Id) := do
  match (← registeredStyle n) with
  | some e => pure (some e)
  | none =>
    match (← rdD fun s => scanStyles s n (edGet s.edict QN_STYLE)) with
    | some e => do
      updD fun s => { s with sdict := sdSet s.sdict n e }
      pure (some e)
    | none => pure none

theorem styleByName_eq (n : Nat) : styleByName n = (do
    if (← rdD fun s => s.sdict.isEmpty) then rebuildAll
    lookupStyle n) := rfl

theorem lookupStyle_view {n : Nat} {s s' : DState} {r : Except Err (Option Id)}
    (hrun : (lookupStyle n).run s = (s', r)) :
    ∃ d o, s' = { s with sdict := d } ∧ r = .ok o ∧ (∀ p ∈ d, p ∈ s.sdict ∨ o = some p.2) ∧
      (∀ e, o = some e → lookupAttr KEY_STYLE_NAME (s.heap e).attrs = some n ∧ underStyles s e = true ∧
        ((sdGet s.sdict n = some e ∧ s.owned e = true) ∨ e ∈ ed s QN_STYLE)) ∧
      (o = none → ∀ y ∈ ed s QN_STYLE, ¬ (lookupAttr KEY_STYLE_NAME (s.heap y).attrs = some n ∧ underStyles s y = true)) := by
  unfold lookupStyle at hrun
  obtain ⟨d1, o1, hr1, hd1, ho1⟩ := registeredStyle_view n s
  rw [DomDoc.run_bind, hr1] at hrun
  cases o1 with
  | some e =>
    cases hrun
    obtain ⟨hsd, ho, hn, hu⟩ := ho1 e rfl
    exact ⟨d1, some e, rfl, rfl, fun p hp => Or.inl (hd1 p hp),
      fun e' he => by cases he; exact ⟨hn, hu, Or.inl ⟨hsd, ho⟩⟩, fun h => by cases h⟩
  | none =>
    simp only [DomDoc.run_bind_rd] at hrun
    -- the scan reads heap and element index, which `__registered_style` left alone
    obtain ⟨hsome, hnone⟩ := scanStyles_spec (s := { s with sdict := d1 }) (n := n) (l := ed s QN_STYLE) rfl
    split at hrun
    · rename_i e heq
      cases hrun
      refine ⟨sdSet d1 n e, some e, rfl, rfl, fun p hp => ?_, fun e' he => ?_, fun h => by cases h⟩
      · rcases mem_sdSet hp with h | h
        · exact Or.inl (hd1 p h)
        · rw [h]; exact Or.inr rfl
      · cases he
        obtain ⟨hm, hn, hu⟩ := hsome e heq
        exact ⟨hn, hu, Or.inr hm⟩
    · rename_i heq
      cases hrun
      exact ⟨d1, none, rfl, rfl, fun p hp => Or.inl (hd1 p hp), fun e he => (by cases he), fun _ => hnone heq⟩

end OdfModel.Props.C09
