/-
  Property C13 — reading a package never expands entities or touches external resources.

  Proved about `OdfModel.Entity` and the regenerated inventory `Generated.ParseSites`: every parser a reading entry point
  can hand a member to, at every object path, is a defusedxml one (`reach_all_defused`, `all_defused`, `load_parametric`);
  the hand-written walk of each entry point (for `load`: every chain of listed `Object <digits>/` folders) opens only
  members the inventory knows (`readOrder_sound`, `objFolders_listed`); and for EVERY entry point a member on the walk
  that declares an entity, or whose DOCTYPE names an external subset, makes the call fail, with `EntitiesForbidden` /
  `ExternalReferenceForbidden` when it is the only faulty member (`refuses_partial`, `refuses_explicit_partial`,
  `refuses_external_subset_partial`; the property in model terms: `C13_full`, `C13_full_partial`).

  Assumed, not proved (level: partial): what defusedxml / expat do with a DOCTYPE (`ParserBehaviour`, validated on every
  run by the fault matrix of harness/c13.py).  Outside the model: "never reads a local file or URL" (a refused parse
  resolves nothing; the harness watches file and URL opens).  That `__fixXmlPart` in front of the parser leaves the DOCTYPE
  alone is the parameter `Prep` of the theorems here; Props/C13Prep.lean discharges it for the character-level model of
  the function.  The external-subset refusal of the MoinMoin converter is CODE (`ODF2MoinMoin._parse` tests
  `doctype.systemId / publicId` after the DOM parse): the `doctypeGuard` flag of the inventory (`moin_guarded`).
-/
import OdfModel.Entity
namespace OdfModel.Props.C13
open OdfModel OdfModel.Entity OdfModel.ParseSite

theorem mem_EP_all (ep : EP) : ep ∈ EP.all := by cases ep <;> decide

/-- one sweep over the entry points; the four theorems after it are its columns -/
theorem reach_table : ∀ ep ∈ EP.all,
    (reachIds ep).isSome = true ∧
    ((reachIds ep).getD []).all (fun i => Generated.ParseSites.sites.any (fun s => s.id == i)) = true ∧
    reachSites ep ≠ [] ∧ ∀ s ∈ reachSites ep, s.origin = 0 := by decide +kernel

/-- every modelled entry point was found in the source by the translator -/
theorem reach_total (ep : EP) : (reachIds ep).isSome = true := (reach_table ep (mem_EP_all ep)).1

/-- every site id in the reach table names a library site of the inventory -/
theorem reach_ids_exist (ep : EP) :
    ((reachIds ep).getD []).all (fun i => Generated.ParseSites.sites.any (fun s => s.id == i)) = true :=
  (reach_table ep (mem_EP_all ep)).2.1

/-- every entry point reaches at least one parser (the table is not vacuous) -/
theorem reach_nonempty (ep : EP) : reachSites ep ≠ [] := (reach_table ep (mem_EP_all ep)).2.2.1

/-- **C13 (inventory, media types)**: no parse site of the library is reached or skipped depending on the media type
    the manifest gives an object folder (the model's walk has no media type: every folder on a listed chain of
    `Object <n>/` folders is a sub-document, whatever kind of object it holds) -/
theorem dispatch_media_independent : ∀ s ∈ Generated.ParseSites.sites, s.mediaCond = 0 := by
  decide

/-- **C13 (inventory)**: every parser construction reachable from a reading entry point of the library is
    imported from `defusedxml` (checked over the inventory regenerated from the source on every run). -/
theorem reach_all_defused (ep : EP) : ∀ s ∈ reachSites ep, s.origin = 0 := (reach_table ep (mem_EP_all ep)).2.2.2

theorem kindOfSites_defused (l : List Site) (hne : l ≠ []) (h : ∀ s ∈ l, s.origin = 0) :
    ∃ api, kindOfSites l = some (.defused api) := by
  cases l with
  | nil => exact absurd rfl hne
  | cons s ss =>
    have hall : (s :: ss).all (fun t => t.origin == 0) = true :=
      List.all_eq_true.mpr fun t ht => beq_iff_eq.mpr (h t ht)
    exact ⟨siteApi s, by rw [kindOfSites, if_pos hall, siteKind, if_pos (h s (.head _))]⟩

/-- **C13 (dispatch)**: whatever member — of the main document or of an embedded object at ANY object path —
    an entry point can hand to a parser, that parser is a defusedxml one. -/
theorem all_defused (ep : EP) (m : Member) (h : parses ep m) : ∃ api, kind ep m = some (.defused api) :=
  kindOfSites_defused (sitesFor ep m) h fun s hs => reach_all_defused ep s (List.mem_filter.mp hs).1

theorem all_defused_isDefused (ep : EP) (m : Member) (h : parses ep m) : (kind ep m).map Kind.isDefused = some true := by
  obtain ⟨api, hk⟩ := all_defused ep m h
  simp [hk, Kind.isDefused]

/-- members of this kind flow into a parser, and every such parser is the defusedxml one of family `api` -/
def Meets (ep : EP) (pt : Part) (objEmpty : Bool) (api : Api) : Prop :=
  sitesForB ep pt objEmpty ≠ [] ∧ kindB ep pt objEmpty = some (.defused api)

instance (ep : EP) (pt : Part) (objEmpty : Bool) (api : Api) : Decidable (Meets ep pt objEmpty api) := by
  unfold Meets; infer_instance

/-- what the proofs below use of the inventory row of an entry point, a part and "the object path is empty" -/
structure RowFacts (ep : EP) (pt : Part) (objEmpty : Bool) : Prop where
  loadPart : ep.shape = .loadLike → pt ≠ .manifest → Meets ep pt objEmpty .sax
  manifest : ep.shape ≠ .moin → pt = .manifest → objEmpty = true → Meets ep pt objEmpty .sax
  moinPart : ep.shape = .moin → pt = .styles ∨ pt = .content → objEmpty = true →
    Meets ep pt objEmpty .dom ∧ guardedB ep pt objEmpty = true
  moinOnly : ep.shape = .moin → sitesForB ep pt objEmpty ≠ [] → objEmpty = true ∧ (pt = .styles ∨ pt = .content)
  prepped : preppedB ep pt objEmpty = true → ep.shape = .loadLike ∧ pt ≠ .manifest

instance (ep : EP) (pt : Part) (objEmpty : Bool) : Decidable (RowFacts ep pt objEmpty) :=
  decidable_of_iff (_ ∧ _ ∧ _ ∧ _ ∧ _)
    ⟨fun ⟨a, b, c, d, e⟩ => ⟨a, b, c, d, e⟩, fun h => ⟨h.loadPart, h.manifest, h.moinPart, h.moinOnly, h.prepped⟩⟩

/-- what the inventory says about a member depends only on its part and on whether its object path is empty, so one
    sweep over entry points × parts × {empty, not empty} covers every object path -/
theorem rowFacts (ep : EP) (pt : Part) (objEmpty : Bool) : RowFacts ep pt objEmpty :=
  (by decide +kernel : ∀ ep ∈ EP.all, ∀ pt ∈ [Part.manifest, .settings, .metadata, .content, .styles],
      ∀ b ∈ [true, false], RowFacts ep pt b)
    ep (mem_EP_all ep) pt (by cases pt <;> decide) objEmpty (by cases objEmpty <;> decide)

/-- **C13 (parametric lemma for `load`)**: for EVERY object path — not an enumeration — the four parts of the
    object are parsed by `load`, and by the defusedxml SAX reader: `__loadxmlparts` has one parse site whose
    member name is `objectpath + literal`. -/
theorem load_parametric (objectpath : Str) (pt : Part) (hpt : pt ≠ .manifest) :
    parses .load ⟨objectpath, pt⟩ ∧ kind .load ⟨objectpath, pt⟩ = some (.defused .sax) :=
  (rowFacts .load pt objectpath.isEmpty).loadPart rfl hpt

/-- the MoinMoin converter opens nothing but styles.xml and content.xml of the main document: no other
    member, and no member of an embedded object, flows into its parsers -/
theorem moin_reads_only_top_styles_content (ep : EP) (hs : ep.shape = .moin) (m : Member) (h : parses ep m) :
    m.obj.isEmpty = true ∧ (m.part = .styles ∨ m.part = .content) :=
  (rowFacts ep m.part m.obj.isEmpty).moinOnly hs h

theorem mem_loadParts (p : Pkg) (obj : Str) (m : Member) (h : m ∈ loadParts p obj) :
    m.obj = obj ∧ m.part ≠ .manifest := by
  have h1 := (List.mem_filter.mp h).1
  simp only [List.map_cons, List.map_nil, List.mem_cons, List.not_mem_nil, or_false] at h1
  rcases h1 with h1 | h1 | h1 | h1 <;> subst h1 <;> simp

theorem chain_listed (man : List Str) (e : Str) (fuel : Nat) (op : Str) :
    ∀ f ∈ chain man e fuel op, man.contains f = true := by
  -- a folder enters the chain only behind the test `man.contains (op ++ seg)`
  fun_induction chain man e fuel op <;> simp_all

/-- every sub-document folder `load` descends into is itself listed in the manifest -/
theorem objFolders_listed (man : List Str) : ∀ f ∈ objFolders man, man.contains f = true := by
  intro f hf
  unfold objFolders at hf
  rw [List.mem_eraseDups] at hf
  obtain ⟨e, _, he⟩ := List.mem_flatMap.mp hf
  exact chain_listed man e _ _ f he

/-- `Object <digits>/` as code points -/
def objName (digits : Str) : Str := [79, 98, 106, 101, 99, 116, 32] ++ digits ++ [47]

/-- the dispatch of 0372084 on an example: a nested folder and a long-named folder ARE sub-documents, a nested
    folder whose parent is not listed is not -/
example :
    objFolders [objName [49], objName [49] ++ Part.content.file, objName [49] ++ objName [50],
                objName [49] ++ objName [50] ++ objName [51, 51], objName [49, 48, 48],
                objName [53] ++ objName [54], [112, 47]]
      = [objName [49], objName [49] ++ objName [50], objName [49] ++ objName [50] ++ objName [51, 51], objName [49, 48, 48]] := by
  decide +kernel

theorem readOrder_cases (ep : EP) (p : Pkg) (m : Member) (h : m ∈ readOrder ep p) :
    (ep.shape ≠ .moin ∧ m = ⟨[], .manifest⟩) ∨ (ep.shape = .loadLike ∧ m.part ≠ .manifest) ∨
    (ep.shape = .moin ∧ ∃ pt, (pt = .styles ∨ pt = .content) ∧ m = ⟨[], pt⟩) := by
  unfold readOrder at h
  cases hs : ep.shape <;> rw [hs] at h <;> simp only at h
  · rcases List.mem_cons.mp h with h | h
    · exact .inl ⟨by decide, h⟩
    · rcases List.mem_append.mp h with h | h
      · exact .inr (.inl ⟨rfl, (mem_loadParts p [] m h).2⟩)
      · obtain ⟨e, _, he⟩ := List.mem_flatMap.mp h
        exact .inr (.inl ⟨rfl, (mem_loadParts p e m he).2⟩)
  · exact .inl ⟨by decide, by simpa using h⟩
  · exact .inr (.inr ⟨rfl, by simpa using h⟩)

/-- **C13 (walk ⊆ inventory)**: every member the model says an entry point opens flows, according to the
    regenerated inventory, into a parser reached from that entry point: a defusedxml one, which is the SAX reader or is
    followed by the code's test for an external subset. -/
theorem readOrder_kind (ep : EP) (p : Pkg) (m : Member) (h : m ∈ readOrder ep p) :
    parses ep m ∧ ∃ api, kind ep m = some (.defused api) ∧ (api = .sax ∨ guarded ep m = true) := by
  rcases readOrder_cases ep p m h with ⟨hs, rfl⟩ | ⟨hs, hp⟩ | ⟨hs, pt, hpt, rfl⟩
  · have ⟨hparsed, hkind⟩ := (rowFacts ep .manifest true).manifest hs rfl rfl
    exact ⟨hparsed, .sax, hkind, .inl rfl⟩
  · have ⟨hparsed, hkind⟩ := (rowFacts ep m.part m.obj.isEmpty).loadPart hs hp
    exact ⟨hparsed, .sax, hkind, .inl rfl⟩
  · have ⟨⟨hparsed, hkind⟩, hg⟩ := (rowFacts ep pt true).moinPart hs hpt rfl
    exact ⟨hparsed, .dom, hkind, .inr hg⟩

theorem readOrder_sound (ep : EP) (p : Pkg) (m : Member) (h : m ∈ readOrder ep p) : parses ep m :=
  (readOrder_kind ep p m h).1

/-- **C13 (inventory, doctype guard)**: the parse site of the MoinMoin converter is followed by the explicit
    `systemId / publicId` test (regenerated from the AST of `ODF2MoinMoin._parse` on every run) -/
theorem moin_guarded (ep : EP) (hs : ep.shape = .moin) (pt : Part) (hpt : pt = .styles ∨ pt = .content) :
    guarded ep ⟨[], pt⟩ = true :=
  ((rowFacts ep pt true).moinPart hs hpt rfl).2

/-- **C13 (inventory, pre-processing)**: the only parse site with a text transformer in front of it is the one of
    `__loadxmlparts` (so the obligation `Prep` concerns `__fixXmlPart` and nothing else): the manifest reader and
    the MoinMoin converter hand the member's bytes to the parser as they are -/
theorem prep_only_load_parts (ep : EP) (pt : Part) (objEmpty : Bool) (h : preppedB ep pt objEmpty = true) :
    ep.shape = .loadLike ∧ pt ≠ .manifest :=
  (rowFacts ep pt objEmpty).prepped h

theorem readMember_declares (B : ParserBehaviour) (P : Prep) {ep : EP} {p : Pkg} {m : Member} (hm : m ∈ readOrder ep p)
    (x : XmlMember) (hd : x.declaresEntity = true) : readMember B P ep m x = .error .entitiesForbidden := by
  obtain ⟨api, hk, _⟩ := (readOrder_kind ep p m hm).2
  simp only [readMember, hk, P.preserves, ite_self, B.defused_refuses_entities api x hd]

theorem readMember_clean (B : ParserBehaviour) (P : Prep) {ep : EP} {p : Pkg} {m : Member} (hm : m ∈ readOrder ep p) :
    readMember B P ep m XmlMember.clean = .ok ⟨false⟩ := by
  obtain ⟨api, hk, _⟩ := (readOrder_kind ep p m hm).2
  simp only [readMember, hk, P.preserves, ite_self, B.clean_ok]
  simp [XmlMember.clean]

/-- a member whose DOCTYPE only names an external subset: refused by the SAX reader (assumed), or by the code's
    own doctype test after a DOM parse (modelled; the DOM parse itself may succeed or refuse, nothing else) -/
theorem readMember_external (B : ParserBehaviour) (P : Prep) {ep : EP} {p : Pkg} {m : Member} (hm : m ∈ readOrder ep p)
    (x : XmlMember) (hd : x.declaresEntity = false) (he : x.externalSubset = true) :
    readMember B P ep m x = .error .externalReferenceForbidden := by
  obtain ⟨api, hk, rfl | hg⟩ := (readOrder_kind ep p m hm).2
  · simp only [readMember, hk, P.preserves, ite_self, B.sax_refuses_external_subset x hd he]
  · rcases B.defused_no_other_failure api x hd with ⟨o, ho⟩ | herr
    · simp [readMember, hk, P.preserves, ite_self, ho, hg, he]
    · simp only [readMember, hk, P.preserves, ite_self, herr]

/-! #### the walk the readers share

  `readList` and its extensions `readListE` (encodings), `readListD` (damaged parts) differ in what ONE member does to
  the call: it is passed over, it aborts the call, or it adds an outcome.  The two facts about refusal are proved once,
  for that shape. -/

inductive Act (ε : Type) where
  | skip | fail (e : ε) | ok (o : Outcome)

def walk {ε : Type} (act : Member → Act ε) : List Member → Except ε (List Outcome)
  | [] => .ok []
  | m :: ms =>
    match act m with
    | .skip => walk act ms
    | .fail e => .error e
    | .ok o => match walk act ms with
      | .error e => .error e
      | .ok os => .ok (o :: os)

theorem walk_fails {ε : Type} (act : Member → Act ε) (m : Member) (h : ∃ e, act m = .fail e) (ms : List Member)
    (hm : m ∈ ms) : ∃ e, walk act ms = .error e := by
  induction ms with
  | nil => cases hm
  | cons m0 rest ih =>
    rcases List.mem_cons.mp hm with rfl | hm
    · obtain ⟨e, he⟩ := h
      exact ⟨e, by rw [walk, he]⟩
    · -- the rest fails, so the call fails whatever the head does
      obtain ⟨e, he⟩ := ih hm
      rw [walk, he]
      cases act m0 <;> exact ⟨_, rfl⟩

/-- single fault: the walk up to the first member with the faulty member's path succeeds, so `err` is what surfaces -/
theorem walk_single_fault {ε : Type} (act : Member → Act ε) (m : Member) (err : ε) (ms : List Member) (hm : m ∈ ms)
    (hbad : ∀ m' ∈ ms, m'.path = m.path → act m' = .fail err)
    (hoth : ∀ m' ∈ ms, m'.path ≠ m.path → act m' = .skip ∨ ∃ o, act m' = .ok o) : walk act ms = .error err := by
  induction ms with
  | nil => cases hm
  | cons m0 rest ih =>
    rw [List.forall_mem_cons] at hbad hoth
    by_cases hp0 : m0.path = m.path
    · simp only [walk, hbad.1 hp0]
    · have ih := ih ((List.mem_cons.mp hm).resolve_left fun h => hp0 (h ▸ rfl)) hbad.2 hoth.2
      rcases hoth.1 hp0 with h | ⟨o, h⟩ <;> simp only [walk, h, ih]

/-- what `readList` does with one member -/
def actOf (B : ParserBehaviour) (P : Prep) (ep : EP) (p : Pkg) (m : Member) : Act Err :=
  match p.lookup m.path with
  | none => if skipsMissing ep m then .skip else .fail .missing
  | some x => match readMember B P ep m x with
    | .error e => .fail e
    | .ok o => .ok o

theorem readList_eq_walk (B : ParserBehaviour) (P : Prep) (ep : EP) (p : Pkg) (ms : List Member) :
    readList B P ep p ms = walk (actOf B P ep p) ms := by
  -- along `readList`'s own cases: each is the branch of `walk` that `actOf` selects for the head
  fun_induction readList B P ep p ms <;> simp_all [walk, actOf]

/-- **C13 (refusal; partial: parser behaviour assumed)**: if an entry point reads a member that declares an
    entity (internal, external general or parameter — used or not), the call does not return: it fails. -/
theorem refuses_partial (B : ParserBehaviour) (P : Prep) (ep : EP) (p : Pkg) (m : Member) (x : XmlMember)
    (hm : m ∈ readOrder ep p) (hx : p.lookup m.path = some x) (hd : x.declaresEntity = true) :
    ∃ e, read B P ep p = .error e := by
  rw [Entity.read, readList_eq_walk]
  exact walk_fails _ m ⟨.entitiesForbidden, by simp only [actOf, hx, readMember_declares B P hm x hd]⟩ _ hm

/-- contrapositive: a call that returns has met no entity declaration in any member it opened -/
theorem returns_implies_clean_partial (B : ParserBehaviour) (P : Prep) (ep : EP) (p : Pkg) (os : List Outcome)
    (h : read B P ep p = .ok os) (m : Member) (x : XmlMember) (hm : m ∈ readOrder ep p)
    (hx : p.lookup m.path = some x) : x.declaresEntity = false :=
  Bool.eq_false_iff.mpr fun hd => by
    obtain ⟨e, he⟩ := refuses_partial B P ep p m x hm hx hd
    rw [he] at h; cases h

/-- the side condition of the single-fault theorems: every OTHER member on the walk is clean, or absent where
    the code tolerates absence -/
def OthersClean (ep : EP) (p : Pkg) (m : Member) : Prop :=
  ∀ m' ∈ readOrder ep p, m'.path ≠ m.path →
    (p.lookup m'.path = none ∧ skipsMissing ep m' = true) ∨ p.lookup m'.path = some XmlMember.clean

/-- single-fault form used by the fault matrix: whatever refusal `err` the faulty member meets wherever its path is
    read, that refusal is what the call fails with -/
theorem read_single_fault (B : ParserBehaviour) (P : Prep) (ep : EP) (p : Pkg) (m : Member) (x : XmlMember) (err : Err)
    (hm : m ∈ readOrder ep p) (hx : p.lookup m.path = some x) (hothers : OthersClean ep p m)
    (hbad : ∀ m' ∈ readOrder ep p, readMember B P ep m' x = .error err) : read B P ep p = .error err := by
  rw [Entity.read, readList_eq_walk]
  refine walk_single_fault _ m err _ hm (fun m' h' hp => ?_) (fun m' h' hp => ?_)
  · simp only [actOf, hp, hx, hbad m' h']
  · rcases hothers m' h' hp with ⟨hl, hs⟩ | hl
    · exact .inl (by simp only [actOf, hl, hs, if_true])
    · exact .inr ⟨⟨false⟩, by simp only [actOf, hl, readMember_clean B P h']⟩

/-- **C13 (explicit refusal; partial: parser behaviour assumed)**: the package's only faulty member declares
    an entity and is read by the entry point ⟹ the call fails with `EntitiesForbidden`, for every entry point,
    every object path, whatever the parser does otherwise. -/
theorem refuses_explicit_partial (B : ParserBehaviour) (P : Prep) (ep : EP) (p : Pkg) (m : Member) (x : XmlMember)
    (hm : m ∈ readOrder ep p) (hx : p.lookup m.path = some x) (hd : x.declaresEntity = true)
    (hothers : OthersClean ep p m) :
    read B P ep p = .error .entitiesForbidden :=
  read_single_fault B P ep p m x _ hm hx hothers fun _ hm' => readMember_declares B P hm' x hd

/-- **C13 (external DTD subset; partial: parser behaviour assumed)**: for EVERY entry point — the MoinMoin
    converter included, through the doctype test of `_parse` — a member whose DOCTYPE names an external subset is
    refused with `ExternalReferenceForbidden`. -/
theorem refuses_external_subset_partial (B : ParserBehaviour) (P : Prep) (ep : EP) (p : Pkg)
    (m : Member) (x : XmlMember)
    (hm : m ∈ readOrder ep p) (hx : p.lookup m.path = some x)
    (hd : x.declaresEntity = false) (he : x.externalSubset = true)
    (hothers : OthersClean ep p m) :
    read B P ep p = .error .externalReferenceForbidden :=
  read_single_fault B P ep p m x _ hm hx hothers fun _ hm' => readMember_external B P hm' x hd he

/-- the property at full strength in model terms, for a given parser behaviour: ANY doctype-borne fault
    (entity declaration or external subset) in a member the entry point reads makes the call fail with one of
    the two explicit refusals -/
def C13_full (B : ParserBehaviour) (P : Prep) : Prop :=
  ∀ (ep : EP) (p : Pkg) (m : Member) (x : XmlMember), m ∈ readOrder ep p → p.lookup m.path = some x →
    (x.declaresEntity = true ∨ x.externalSubset = true) → OthersClean ep p m →
    read B P ep p = .error .entitiesForbidden ∨ read B P ep p = .error .externalReferenceForbidden

/-- **C13 (full statement; partial only in that the behaviour of defusedxml / expat is the hypothesis `B`)** -/
theorem C13_full_partial (B : ParserBehaviour) (P : Prep) : C13_full B P := by
  intro ep p m x hm hx hf ho
  cases hd : x.declaresEntity with
  | true => exact Or.inl (refuses_explicit_partial B P ep p m x hm hx hd ho)
  | false =>
    exact Or.inr (refuses_external_subset_partial B P ep p m x hm hx hd (hf.resolve_left (by simp [hd])) ho)

/-- a package whose content.xml names an external DTD subset and declares nothing itself -/
def extSubsetPkg : Pkg :=
  { files := [(Part.styles.file, XmlMember.clean), (Part.content.file, ⟨false, true⟩)], manifest := [] }

/-- finding KF-C13-1/2 (/repo fix d51c2e9) on the model, with the observed parser behaviour: the DOM parse of content.xml
    succeeds and the doctype test of `_parse` refuses it -/
theorem moin_external_subset_refused : read observed Prep.id .moinInit extSubsetPkg = .error .externalReferenceForbidden := by
  rfl

/-! ### the hypotheses are satisfiable / the model is not vacuous -/

example : parses .load ⟨lit "Object 1/", .content⟩ := (load_parametric _ _ (by decide)).1
example : ¬ parses .moinInit ⟨[79, 98, 106, 101, 99, 116, 32, 49, 47], .content⟩ := by decide
example : ¬ parses .manifestlist ⟨[], .content⟩ := by decide

/-- `Object 1/content.xml` declares an entity: load refuses, for the observed behaviour and any other -/
example (B : ParserBehaviour) (P : Prep) :
    read B P EP.load ({ files := [(Part.manifest.file, XmlMember.clean),
                             ([79, 98, 106, 101, 99, 116, 32, 49, 47] ++ Part.content.file, ⟨true, false⟩)],
                        manifest := [[79, 98, 106, 101, 99, 116, 32, 49, 47],
                                     [79, 98, 106, 101, 99, 116, 32, 49, 47] ++ Part.content.file] } : Pkg)
      = .error .entitiesForbidden := by
  apply refuses_explicit_partial B P .load _ ⟨[79, 98, 106, 101, 99, 116, 32, 49, 47], .content⟩ ⟨true, false⟩
  · decide +kernel
  · decide +kernel
  · rfl
  · unfold OthersClean; decide +kernel

/-- `Object 1/Object 2/styles.xml` (nested) names an external subset: every load-like entry point refuses -/
example (B : ParserBehaviour) (P : Prep) :
    read B P EP.xhtmlOdf2xhtml
      ({ files := [(Part.manifest.file, XmlMember.clean), (objName [49] ++ objName [50] ++ Part.styles.file, ⟨false, true⟩)],
         manifest := [objName [49], objName [49] ++ objName [50], objName [49] ++ objName [50] ++ Part.styles.file] } : Pkg)
      = .error .externalReferenceForbidden := by
  apply refuses_external_subset_partial B P .xhtmlOdf2xhtml _ ⟨objName [49] ++ objName [50], .styles⟩ ⟨false, true⟩
  · decide +kernel
  · decide +kernel
  · rfl
  · rfl
  · unfold OthersClean; decide +kernel

/-- had a plain parser been used, the observed behaviour would return expanded content -/
example : observed.parse .plain ⟨true, false⟩ = .ok ⟨true⟩ := rfl

end OdfModel.Props.C13
