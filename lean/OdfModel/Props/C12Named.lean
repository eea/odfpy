/-
  Props/C12Named — C12 for documents whose named things bear REPEATED names (two font faces / styles / master pages with
  one name) and for documents whose media type has surrounding white space (loaded from a package zipped by hand).

  The theorems of Props/C12 quantify over ALL documents; here the two classes are spelled out: no hypothesis about the
  names in `office:font-face-decls` (or anywhere else) and none about the media type string is needed.  Rendering writes
  the font declarations element AS IT IS (no selection by name, no moving of its children) and the media type AS IT IS
  (no trimming), after any history of output calls, and the document keeps both.
-/
import OdfModel.Render
import OdfModel.Props.C12
namespace OdfModel.Props.C12Named
open OdfModel OdfModel.Styles OdfModel.Render OdfModel.Props.C12

/-- **C12 (media type)**: after any sequence of output calls `getMediaType()` (of the document and of every embedded
    object) and the `office:mimetype` attribute of the top node are what they were — white space included. -/
theorem mediatype_pure (c : Render.Cfg) (ops : List Op) (d : Doc) :
    (run c ops d).mimetype = d.mimetype ∧ (run c ops d).topAttrs = d.topAttrs ∧
    (run c ops d).objects.map (·.mimetype) = d.objects.map (·.mimetype) := by
  obtain ⟨-, hobj, -, htop, -, -, hmt⟩ := nonmeta_pure c ops d
  simp [hobj, htop, hmt]

/-- the package begins with the `mimetype` member, holding the document's media type string verbatim -/
theorem pkg_mimetype_verbatim (F : Styles.Cfg) (d : Doc) :
    (pkg F d).head? = some (str "mimetype", Member.bytes d.mimetype) := by
  obtain ⟨rest, h⟩ := pkg_shape F d
  rw [h]; rfl

/-- **C12 (media type written)**: after ANY history of output calls, `save()` and `write()` write as `mimetype` member
    exactly the string the ORIGINAL document holds: nothing is trimmed, neither in the output nor (by `mediatype_pure`)
    in the document. -/
theorem mimetype_member_after_history (c : Render.Cfg) (pre : List Op) (d : Doc) (op : Op) (h : op = .save ∨ op = .write) :
    ∃ rest, out c op (run c pre d) = .pkg ((str "mimetype", Member.bytes d.mimetype) :: rest) := by
  rw [out_run]
  obtain ⟨rest, hp⟩ := pkg_shape c.followed (normGen c.tv d)
  rcases h with rfl | rfl <;> exact ⟨_, congrArg Out.pkg hp⟩

/-- the first manifest entry `_saveXmlObjects` makes for a (sub)document is its own: the entry path and media type it
    was given (for the top document "/" and the string the `mimetype` member holds) -/
theorem xmlMembers_entry (F : Styles.Cfg) (folder entry mt : Str) (p : Part) (m : Option Node) :
    (xmlMembers F folder entry mt p m).2.head? = some (entry, mt) := by
  simp [xmlMembers]

/-- **C12 (font declarations)**: after any sequence of output calls the `office:font-face-decls` element of the document
    is the one it was — whatever names its children bear, repeated or not. -/
theorem fontdecls_pure (c : Render.Cfg) (ops : List Op) (d : Doc) : (run c ops d).part.ffd = d.part.ffd := by
  rw [(nonmeta_pure c ops d).1]

/-- **C12 (font declarations written)**: `contentxml()` and `stylesxml()` after any history write the font declarations
    element of the ORIGINAL document itself (when it has children), all children in their order — not a selection. -/
theorem fontdecls_written_as_declared (c : Render.Cfg) (pre : List Op) (d : Doc) :
    (∃ a b, out c .contentxml (run c pre d) = .xml (.elem eDocContent ver (a ++ ifKids d.part.ffd ++ b))) ∧
    (∃ b, out c .stylesxml (run c pre d) = .xml (.elem eDocStyles ver (ifKids d.part.ffd ++ b))) := by
  rw [out_run, out_run]
  refine ⟨⟨ifKids d.part.scripts, [.elem eAutoStyles [] (contentKept c.followed (toStyleDoc d.part))] ++ [d.part.body], ?_⟩,
          ⟨[d.part.styles] ++ [.elem eAutoStyles [] (stylesKept c.followed (toStyleDoc d.part))] ++ ifKids d.part.master, ?_⟩⟩
  · simp only [out, contentTree, List.append_assoc]
  · simp only [out, stylesTree, List.append_assoc]

/-- a document that declares one font name twice, and whose media type ends with a line end -/
def twice : Doc :=
  { C12.sample with
    mimetype := str "application/vnd.oasis.opendocument.text\n"
    part := { C12.sample.part with
      ffd := .elem 60 [] [.elem 61 [(70, str "Body Font")] [], .elem 61 [(70, str "Mono")] [],
                          .elem 61 [(70, str "Body Font"), (71, str "roman")] []] } }

example : (run ⟨⟨[], [], fun _ => false⟩, str "ODFPY/x"⟩ [.save, .contentxml, .write, .stylesxml] twice).part.ffd = twice.part.ffd ∧
    (run ⟨⟨[], [], fun _ => false⟩, str "ODFPY/x"⟩ [.save, .contentxml, .write, .stylesxml] twice).mimetype = twice.mimetype :=
  ⟨fontdecls_pure _ _ _, (mediatype_pure _ _ _).1⟩

end OdfModel.Props.C12Named
