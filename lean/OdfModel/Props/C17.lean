/-
  Property C17 — the whitespace helper round-trips every string.
  Theorems about `OdfModel.Teletype`; tied to odf/teletype.py by the correspondence run
  of `harness/c17.py` (same strings through `addTextToElement`/`extractText` and through
  `enc`/`extractL`).
-/
import OdfModel.Teletype
namespace OdfModel.Props.C17
open OdfModel OdfModel.Teletype

theorem extractL_flush (buf : Str) : extractL (flush buf) = buf := by
  unfold flush
  cases buf <;> simp [extractL, extract]

@[simp] theorem extractL_cons (a : TNode) (b : List TNode) :
    extractL (a :: b) = extract a ++ extractL b := by simp [extractL]

@[simp] theorem extractL_nil : extractL [] = [] := by simp [extractL]

theorem extractL_append (a b : List TNode) : extractL (a ++ b) = extractL a ++ extractL b := by
  induction a with
  | nil => simp
  | cons x xs ih => simp [ih]

theorem takeWhile_spaces (r : Str) :
    r.takeWhile (· = SP) = List.replicate (r.takeWhile (· = SP)).length SP :=
  List.eq_replicate_iff.mpr ⟨rfl, fun b hb => by simpa using List.all_eq_true.mp List.all_takeWhile b hb⟩

/-- **C17 (direct round trip)**: for every string, with any pending text buffer. -/
theorem roundtrip_buf (buf s : Str) : extractL (enc buf s) = buf ++ s := by
  fun_induction enc buf s with
  | case1 buf => simp [extractL_flush]
  | case2 buf r ih | case3 buf r _ ih => simp [extractL_append, extractL_flush, ih, extract]
  | case4 buf r n _ _ _ ih =>
    -- the `n` blanks of `<text:s>` and what follows them are the rest of the input
    have hr : List.replicate n SP ++ r.dropWhile (· = SP) = r :=
      takeWhile_spaces r ▸ List.takeWhile_append_dropWhile
    simp [extractL_append, extractL_flush, ih, extract, hr]
  | case5 buf r _ _ _ _ ih | case6 buf c r _ _ _ ih => simp [ih]

/-- **C17**: `extractText(addTextToElement(empty, s)) = s` for every string `s`. -/
theorem roundtrip (s : Str) : extractL (enc [] s) = s := by
  simpa using roundtrip_buf [] s

/-- **C17 (appending to an element that already has content)** -/
theorem roundtrip_append (kids : List TNode) (s : Str) :
    extractL (kids ++ enc [] s) = extractL kids ++ s := by
  rw [extractL_append, roundtrip]

/-- no literal TAB or LF, and no two adjacent literal blanks -/
def CleanStr : Str → Bool
  | [] => true
  | [c] => c != TAB && c != LF
  | c :: d :: r => c != TAB && c != LF && !(c == SP && d == SP) && CleanStr (d :: r)

def CleanNode : TNode → Bool
  | .text s => CleanStr s && !s.isEmpty
  | .sp n => n ≥ 1
  | .tab => true
  | .lb => true
  | _ => false     -- `enc` never produces CDATA, a count-less <text:s/> or other elements

theorem cleanStr_snoc (buf : Str) (c : Cp) (hb : CleanStr buf = true)
    (h1 : c ≠ TAB) (h2 : c ≠ LF) (h3 : c = SP → buf.getLast? ≠ some SP) :
    CleanStr (buf ++ [c]) = true := by
  fun_induction CleanStr buf with
  | case1 => simp [CleanStr, h1, h2]
  | case2 a =>
    have h : ¬ a = SP ∨ ¬ c = SP := Decidable.not_and_iff_or_not.mp fun h => h3 h.2 (by simp [h.1])
    simpa [CleanStr, h1, h2, h] using hb
  | case3 a d r ih =>
    simp only [List.cons_append, CleanStr, Bool.and_eq_true] at hb ⊢
    exact ⟨hb.1, ih hb.2 (by simpa using h3)⟩

theorem all_flush (buf : Str) (hb : CleanStr buf = true) :
    (flush buf).all CleanNode = true := by
  unfold flush
  cases buf <;> simp_all [CleanNode]

/-- invariant of the loop: the buffer is clean, and if it ends in a blank the next input
    character is not a blank (the blank-run branch consumed the whole run) -/
theorem clean_buf (buf s : Str) (hb : CleanStr buf = true)
    (hs : buf.getLast? = some SP → s.head? ≠ some SP) :
    (enc buf s).all CleanNode = true := by
  fun_induction enc buf s with
  | case1 buf => exact all_flush buf hb
  | case2 buf r ih | case3 buf r _ ih =>
    simp only [List.all_append, Bool.and_eq_true]
    exact ⟨⟨all_flush buf hb, by simp [CleanNode]⟩, ih (by simp [CleanStr]) (by simp)⟩
  | case4 buf r n hn _ _ ih =>
    simp only [List.all_append, Bool.and_eq_true]
    refine ⟨⟨all_flush _ ?_, by simp [CleanNode]; omega⟩, ih (by simp [CleanStr]) (by simp)⟩
    exact cleanStr_snoc buf SP hb (by decide) (by decide) fun _ h => hs h (by simp)
  | case5 buf r n hn _ _ ih =>
    refine ih (cleanStr_snoc buf SP hb (by decide) (by decide) fun _ h => hs h (by simp)) fun _ => ?_
    -- no blank follows: the run of blanks after this one is empty
    cases r with
    | nil => simp
    | cons d r' =>
      by_cases hd : d = SP
      · simp [n, hd] at hn
      · simp [hd]
  | case6 buf c r h1 h2 h3 ih =>
    exact ih (cleanStr_snoc buf c hb h1 h2 fun h => absurd h h3) (by simp [h3])

/-- **C17 (no raw whitespace)**: every node inserted by one call is a non-empty text node
    without TAB, LF or two adjacent blanks, a `<text:s>` with count ≥ 1, a `<text:tab>` or a
    `<text:line-break>`. -/
theorem no_raw_whitespace (s : Str) : (enc [] s).all CleanNode = true :=
  clean_buf [] s (by simp [CleanStr]) (by simp)

theorem extractL_mergeText (l : List TNode) : extractL (mergeText l) = extractL l := by
  fun_induction mergeText l with
  | case1 a b r ih => simp [ih, extract]
  | case2 ks r ih | case3 x r _ _ ih => simp [ih]
  | case4 => rfl

/-- **C17 (after save/load)**: merging adjacent text nodes — which is all a save/load cycle
    does to the inserted children besides the character replacement of C02 — does not change
    what `extractText` returns. -/
theorem roundtrip_after_merge (kids : List TNode) (s : Str) :
    extractL (mergeText (kids ++ enc [] s)) = extractL kids ++ s := by
  rw [extractL_mergeText, roundtrip_append]

end OdfModel.Props.C17
