/-
  Property C13, TWO DEFECTS IN ONE PACKAGE: a member that declares entities next to members that are damaged (not
  well-formed) or listed in the manifest but missing from the zip.

  PROVED here (about `OdfModel.EntityDamage`, on top of `OdfModel.Props.C13`):
    * whatever is damaged or missing elsewhere, a sound member on the walk that declares entities makes the call FAIL
      (`pair_refuses_partial`);
    * for the readers built on `load`, when everything else on the walk is clean, damaged or missing (parts, not the
      manifest), the failure is the explicit `EntitiesForbidden` (`pair_explicit_partial`);
    * the missing-part case inside the unextended model (`refuses_with_missing_parts_partial`).
  Partial in the same sense as `Props.C13`: parser behaviour is the hypothesis `ParserBehaviour`.
-/
import OdfModel.Props.C13
import OdfModel.EntityDamage
namespace OdfModel.Props.C13Pair
open OdfModel OdfModel.Entity OdfModel.ParseSite OdfModel.Props.C13

/-- what `readListD` does with one member -/
def actOfD (B : ParserBehaviour) (P : Prep) (ep : EP) (p : PkgD) (m : Member) : Act ErrD :=
  match p.pkg.lookup m.path with
  | none => if skipsMissing ep m then .skip else .fail (.refused .missing)
  | some x =>
    if p.damaged.contains m.path then (if printsAndGoesOn ep m then .skip else .fail .notWellFormed)
    else match readMember B P ep m x with
      | .error e => .fail (.refused e)
      | .ok o => .ok o

theorem readListD_eq_walk (B : ParserBehaviour) (P : Prep) (ep : EP) (p : PkgD) (ms : List Member) :
    readListD B P ep p ms = walk (actOfD B P ep p) ms := by
  fun_induction readListD B P ep p ms <;> simp_all [walk, actOfD]

theorem actOfD_declares (B : ParserBehaviour) (P : Prep) {ep : EP} {p : PkgD} {m' m : Member} (x : XmlMember)
    (hm' : m' ∈ readOrder ep p.pkg) (hp : m'.path = m.path) (hx : p.pkg.lookup m.path = some x)
    (hd : x.declaresEntity = true) (hsound : p.damaged.contains m.path = false) :
    actOfD B P ep p m' = .fail (.refused .entitiesForbidden) := by
  simp only [actOfD, hp, hx, hsound, readMember_declares B P hm' x hd]; rfl

/-- **C13 (two defects; partial: parser behaviour assumed)**: whichever other members are damaged or missing, a sound
    member on the walk of the entry point that declares an entity makes the call fail: it never returns.
    `hsound` is needed: the model tests `damaged` before it hands the member to the parser, so in the model a part that
    declares an entity AND is not well-formed is printed and passed over by the readers built on `load` (expat would
    still meet a declaration that stands in front of the damage). -/
theorem pair_refuses_partial (B : ParserBehaviour) (P : Prep) (ep : EP) (p : PkgD) (m : Member) (x : XmlMember)
    (hm : m ∈ readOrder ep p.pkg) (hx : p.pkg.lookup m.path = some x) (hd : x.declaresEntity = true)
    (hsound : p.damaged.contains m.path = false) :
    ∃ e, readD B P ep p = .error e := by
  rw [readD, readListD_eq_walk]
  exact walk_fails _ m ⟨_, actOfD_declares B P x hm rfl hx hd hsound⟩ _ hm

/-- what the other members on the walk may be: clean, or - a part, not the manifest - damaged or missing -/
def OthersDamaged (ep : EP) (p : PkgD) (m : Member) : Prop :=
  ∀ m' ∈ readOrder ep p.pkg, m'.path ≠ m.path →
    (p.pkg.lookup m'.path = some XmlMember.clean ∧ p.damaged.contains m'.path = false) ∨
    (m'.part ≠ .manifest ∧ (p.pkg.lookup m'.path = none ∨ p.damaged.contains m'.path = true))

/-- **C13 (two defects, explicit refusal; partial: parser behaviour assumed)**: for `load` and every reader built on it,
    a sound member on the walk declares an entity, every other member on the walk is clean or is a part that is damaged
    (not well-formed) or missing from the zip ⟹ the call fails with `EntitiesForbidden`: the damaged part ends the
    reading of that part only. -/
theorem pair_explicit_partial (B : ParserBehaviour) (P : Prep) (ep : EP) (hs : ep.shape = .loadLike) (p : PkgD)
    (m : Member) (x : XmlMember)
    (hm : m ∈ readOrder ep p.pkg) (hx : p.pkg.lookup m.path = some x) (hd : x.declaresEntity = true)
    (hsound : p.damaged.contains m.path = false) (hothers : OthersDamaged ep p m) :
    readD B P ep p = .error (.refused .entitiesForbidden) := by
  rw [readD, readListD_eq_walk]
  refine walk_single_fault _ m _ _ hm (fun _ h' hp => actOfD_declares B P x h' hp hx hd hsound)
    (fun m' h' hp => ?_)
  rcases hothers m' h' hp with ⟨hl, hnd⟩ | ⟨hpart, hmiss⟩
  · exact .inr ⟨⟨false⟩, by simp only [actOfD, hl, hnd, readMember_clean B P h']; rfl⟩
  · -- a part of a load-like reader: missing is skipped, damaged is printed and skipped
    have hgo : printsAndGoesOn ep m' = true := by simp [printsAndGoesOn, hs, hpart]
    have hsk : skipsMissing ep m' = true := by simp [skipsMissing, hs, hpart]
    left
    rcases hmiss with hl | hdm
    · simp only [actOfD, hl, hsk, if_true]
    · cases hl : p.pkg.lookup m'.path <;> simp only [actOfD, hl, hdm, hgo, hsk, if_true]

/-- **C13 (missing parts, in the unextended model)**: parts listed in the manifest but absent from the zip do not keep
    `load` and the readers built on it from refusing the member that declares an entity. -/
theorem refuses_with_missing_parts_partial (B : ParserBehaviour) (P : Prep) (ep : EP) (hs : ep.shape = .loadLike) (p : Pkg)
    (m : Member) (x : XmlMember)
    (hm : m ∈ readOrder ep p) (hx : p.lookup m.path = some x) (hd : x.declaresEntity = true)
    (hothers : ∀ m' ∈ readOrder ep p, m'.path ≠ m.path →
        p.lookup m'.path = some XmlMember.clean ∨ (p.lookup m'.path = none ∧ m'.part ≠ .manifest)) :
    read B P ep p = .error .entitiesForbidden := by
  apply refuses_explicit_partial B P ep p m x hm hx hd
  intro m' hm' hne
  rcases hothers m' hm' hne with h | ⟨h, hpart⟩
  · exact Or.inr h
  · exact Or.inl ⟨h, by simp [skipsMissing, hs, hpart]⟩

/-- the model on an instance: settings.xml listed but damaged, content.xml declares an entity -/
example : readD observed Prep.id .load
    { pkg := { files := [(Part.manifest.file, XmlMember.clean), (Part.settings.file, XmlMember.clean), (Part.content.file, ⟨true, false⟩)],
               manifest := [Part.settings.file, Part.content.file] },
      damaged := [Part.settings.file] } = .error (.refused .entitiesForbidden) := by rfl

end OdfModel.Props.C13Pair
