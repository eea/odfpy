/-
  Property C19, package level — "all other fields, the rest of the content, styles, pictures and other package members are
  preserved as by an ordinary load and save.  Listing and reading fields never modifies the source."
  `OdfModel.UserField` (the update loop) × `OdfModel.Pkg` (`load`, `save`), as in odf/userfield.py: `update` = `loaddoc()`
  (→ `Pkg.load`), the loop (→ `UserField.updateDoc`), `savedoc()` (→ `Pkg.save`); listing = `loaddoc()`, read, return.
  A written package is the member list of `Pkg.save` with the tokens of the XML parts resolved through a table of bodies
  (`write`); the XML layer is a parameter (`XmlLayer`).  The frame theorems: every member of the output other than the four
  XML parts of the root document is the same value, at the same place, as in a plain `save (load p)`, and the manifest is the
  same list; the root's own parts are `ser k` of the updated tree, about which Props/C19.lean says the rest.
-/
import OdfModel.Props.C03
import OdfModel.Props.C19
namespace OdfModel.Props.C19Pkg
open OdfModel OdfModel.Pkg
open OdfModel.UserField (Data Err Item Field updateDoc fieldsOf listFields)
open OdfModel.Props.C19 (All2 ItemRel expectedView named)

/-- the element tree of the root document as the user-field tool sees it -/
abbrev UDoc := UserField.Doc

/-! ### a written package with its XML parts resolved -/

/-- what the bytes of a member are, once the XML parts are no longer tokens -/
inductive Body (β : Type) where
  | bytes (b : Bytes)
  | file (fname : Str)                -- the bytes of that file at save time
  | xml (x : β)                       -- a serialised XML part
  | manifest (entries : List ME)      -- META-INF/manifest.xml: the serialised entry list
deriving DecidableEq

structure Member (β : Type) where
  name : Str
  method : Method
  extra : Bytes
  body : Body β
deriving DecidableEq

/-- the package a `save` leaves behind: the zip members in writing order, and the manifest entry list -/
structure Written (β : Type) where
  members : List (Member β)
  manifest : List ME
deriving DecidableEq

def resolve {β : Type} (B : PartKind → Nat → β) (man : List ME) : Content → Body β
  | .bytes b => .bytes b
  | .file f => .file f
  | .part k i => .xml (B k i)
  | .manifestXml => .manifest man

def member {β : Type} (B : PartKind → Nat → β) (man : List ME) (e : ZE) : Member β :=
  ⟨e.name, e.method, e.extra, resolve B man e.content⟩

/-- `doc.save(dest)` with the XML parts taken from `B` -/
def write {β : Type} (B : PartKind → Nat → β) (d : Pkg.Doc) : Written β :=
  ⟨(save d).zip.map (member B (save d).man), (save d).man⟩

/-- member name of a part of the root document -/
def partName : PartKind → Str
  | .styles => sStyles
  | .content => sContent
  | .settings => sSettings
  | .metadata => sMeta

/-- the names of the four XML parts of the root document -/
def rootPartNames : List Str := [sStyles, sContent, sSettings, sMeta]

theorem partName_mem (k : PartKind) : partName k ∈ rootPartNames := by
  cases k <;> simp [partName, rootPartNames]

/-! ### the XML layer (a parameter) and the three operations

`Pkg.save` writes the XML parts as opaque tokens `Content.part kind objectId`; the root document of a loaded package has the
ghost id 0, every sub-document (embedded object, at any depth) the id 1 + the position of its folder key (`buildDoc`).
`rootTree p` is the element tree `load` builds for the root document, as `UserField.Doc` (declarations and opaque other
nodes, in the order `getElementsByType` walks them).  `getElementsByType` consults `element_dict` of the root `OpenDocument`
only: a sub-document is an `OpenDocument` of its own with its own `element_dict`, so the loop never sees it.  `ser k t`
stands for `contentxml()`, `stylesxml()`, `metaxml()`, `settingsxml()` of the root document; `subPart p k i` is part `k` of
the sub-document with ghost id `i` as `save` writes it after `load p`.  Nothing is assumed about these three functions. -/

structure XmlLayer (β : Type) where
  /-- the tree `load` builds for the root document -/
  rootTree : Package → UDoc
  /-- serialiser of one part of the root document -/
  ser : PartKind → UDoc → β
  /-- the parts of the sub-documents as they are written after a load (the tool never touches them) -/
  subPart : Package → PartKind → Nat → β

/-- the table of bodies of a document loaded from `p` whose root tree is `t` -/
def bodies {β : Type} (X : XmlLayer β) (p : Package) (t : UDoc) : PartKind → Nat → β :=
  fun k i => if i = 0 then X.ser k t else X.subPart p k i

/-- an ordinary load and save: `load(src).save(dest)`; `none` = `load` raises -/
def plainPkg {β : Type} (X : XmlLayer β) (p : Package) : Option (Written β) :=
  (load p).map (fun d => write (bodies X p (X.rootTree p)) d)

/-- load, transform the root tree with ANY function, save -/
def transformPkg {β : Type} (X : XmlLayer β) (f : UDoc → UDoc) (p : Package) : Option (Written β) :=
  (load p).map (fun d => write (bodies X p (f (X.rootTree p))) d)

/-- `UserFields(src, dest).update(data)`: `none` = `load` raises; `.error` = a converter raised inside the loop,
    `savedoc()` is not reached and nothing is written; `.ok w` = the package written to `dest` -/
def updatePkg {β : Type} (X : XmlLayer β) (p : Package) (data : Data) : Option (Except Err (Written β)) :=
  (load p).map (fun d =>
    match updateDoc data (X.rootTree p) with
    | .error e => .error e
    | .ok t' => .ok (write (bodies X p t') d))

/-- the tool's world: the source package and what has been written to the destination -/
structure PkgState (β : Type) where
  src : Package
  dest : Option (Written β)

/-- `UserFields(src, dest).list_fields_and_values()`: `loaddoc()`, read, return — there is no `savedoc()`;
    `none` = `load` raises -/
def listPkg {β : Type} (X : XmlLayer β) (s : PkgState β) :
    Option (List (Option Str × Option Str × Option Str)) × PkgState β :=
  ((load s.src).map (fun _ => listFields (fieldsOf (X.rootTree s.src))), s)

theorem all2_mono {α γ : Type} {R S : α → γ → Prop} {l : List α} {l' : List γ} (h : All2 R l l')
    (hi : ∀ a b, R a b → S a b) : All2 S l l' :=
  h.imp hi

/-! ### where `save` writes a part of the object with id 0 -/

/-- no member of `o` is an XML part of the object with id 0 -/
def NoRootPart (o : Out) : Prop := ∀ e ∈ o.zip, ∀ k, e.content ≠ Content.part k 0

/-- every member of `o` that is an XML part of the object with id 0 is that part under its top-level name -/
def RootPartsAtTop (o : Out) : Prop :=
  ∀ e ∈ o.zip, (∀ k, e.content ≠ Content.part k 0) ∨ ∃ k, e = ⟨partName k, .deflated, [], Content.part k 0⟩

theorem NoRootPart.append {a b : Out} (ha : NoRootPart a) (hb : NoRootPart b) : NoRootPart (a ++ b) :=
  fun e he => (List.mem_append.mp he).elim (ha e) (hb e)

theorem RootPartsAtTop.append {a b : Out} (ha : RootPartsAtTop a) (hb : RootPartsAtTop b) : RootPartsAtTop (a ++ b) :=
  fun e he => (List.mem_append.mp he).elim (ha e) (hb e)

theorem NoRootPart.atTop {a : Out} (ha : NoRootPart a) : RootPartsAtTop a := fun e he => Or.inl (ha e he)

theorem noRootPart_empty : NoRootPart Out.empty := fun _ he => absurd he List.not_mem_nil

theorem noRootPart_emM {m : ME} : NoRootPart (emM m) := fun _ he => absurd he List.not_mem_nil

theorem noRootPart_emZ {z : ZE} (hc : ∀ k, z.content ≠ Content.part k 0) : NoRootPart (emZ z) := by
  intro e he
  simp only [emZ_zip, List.mem_singleton] at he
  subst he; exact hc

theorem noRootPart_emFile {n : Str} {m : Method} {c : Content} {t : Str} (hc : ∀ k, c ≠ Content.part k 0) :
    NoRootPart (emFile n m c t) :=
  noRootPart_emM.append (noRootPart_emZ hc)

theorem noRoot_ownXml (top : Bool) (G : Str) (o : Pkg.Doc) (h : o.id ≠ 0) : NoRootPart (ownXml top G o) :=
  noRootPart_emM.append (Out.concat_ind noRootPart_empty NoRootPart.append fun _ _ =>
    noRootPart_emFile fun _ hc => h (Content.part.inj hc).2)

theorem partPath_top (k : PartKind) : partPath [] k = partName k := by
  cases k <;> rfl

theorem atTop_ownXml (o : Pkg.Doc) (h : o.id = 0) : RootPartsAtTop (ownXml true [] o) := by
  refine noRootPart_emM.atTop.append (Out.concat_ind noRootPart_empty.atTop RootPartsAtTop.append fun k _ e he => ?_)
  rw [emFile_zip, List.mem_singleton, partPath_top, h] at he
  exact Or.inr ⟨k, he⟩

theorem noRoot_saveXmlKids (L : Nat) (ds : List Pkg.Doc) (h : ∀ q ∈ objectsK L ds, q.2.id ≠ 0) :
    NoRootPart (saveXmlKids L ds) := by
  rw [(walk_saveXml L).eqK]
  exact Out.concat_ind noRootPart_empty NoRootPart.append fun q hq => noRoot_ownXml false q.1 q.2 (h q hq)

theorem noRoot_picsOut (F : Str) (ps : List Pic) : NoRootPart (picsOut F ps) := by
  rw [picsOut_eq]
  refine Out.concat_ind noRootPart_empty NoRootPart.append fun p _ => noRootPart_emFile fun k hc => ?_
  cases hp : p.src <;> rw [hp] at hc <;> cases hc

theorem noRoot_savePicsKids (L : Nat) (ds : List Pkg.Doc) : NoRootPart (savePicsKids L ds) := by
  rw [(walk_savePics L).eqK]
  exact Out.concat_ind noRootPart_empty NoRootPart.append fun p _ => noRoot_picsOut p.1 _

theorem noRoot_thumbOut (t : Option Thumb) : NoRootPart (thumbOut t) := by
  cases t with
  | none => exact noRootPart_empty
  | some t => exact noRootPart_emM.append (noRootPart_emFile (by intro k hc; cases hc))

theorem noRoot_extrasOut (F : Str) (es : List Extra) : NoRootPart (extrasOut F es) := by
  rw [extrasOut_eq]
  refine Out.concat_ind noRootPart_empty NoRootPart.append fun x _ => ?_
  unfold extraOut
  split
  · exact noRootPart_empty
  · split
    · exact noRootPart_emM
    · exact noRootPart_emFile (by intro k hc; cases hc)

theorem noRoot_saveExtrasKids (L : Nat) (ds : List Pkg.Doc) : NoRootPart (saveExtrasKids L ds) := by
  rw [(walk_saveExtras L).eqK]
  exact Out.concat_ind noRootPart_empty NoRootPart.append fun p _ => noRoot_extrasOut p.1 _

/-- in everything `save` writes for a document with id 0 none of whose sub-documents has id 0, a part of the object 0
    is one of the (at most four) top-level members styles.xml / content.xml / settings.xml / meta.xml -/
theorem atTop_save (d : Pkg.Doc) (hid : d.id = 0) (hk : ∀ q ∈ objectsK d.folder.length d.children, q.2.id ≠ 0) :
    RootPartsAtTop (save d) := by
  -- the six pieces of `save` in its order; only the second holds parts of the object 0, those of `ownXml true [] d`
  have hmime : NoRootPart (emZ ⟨sMimetype, .stored, [], .bytes (utf8 d.mimetype)⟩) := noRootPart_emZ fun _ hc => nomatch hc
  have hxml : RootPartsAtTop (saveXml d.folder.length true [] d) := by
    rw [saveXml_own]; exact (atTop_ownXml d hid).append (noRoot_saveXmlKids _ _ hk).atTop
  have hp : NoRootPart (savePics d.folder.length [] d) := by
    rw [(walk_savePics _).doc]; exact (noRoot_picsOut _ _).append (noRoot_savePicsKids _ _)
  have he : NoRootPart (saveExtras d.folder.length [] d) := by
    rw [(walk_saveExtras _).doc]; exact (noRoot_extrasOut _ _).append (noRoot_saveExtrasKids _ _)
  have hman : NoRootPart (emZ ⟨sManifestPath, .deflated, [], .manifestXml⟩) := noRootPart_emZ fun _ hc => nomatch hc
  unfold save
  exact ((((hmime.atTop.append hxml).append hp.atTop).append (noRoot_thumbOut _).atTop).append he.atTop).append hman.atTop

/-! ### the frame, for any two tables of bodies that agree outside the root document -/

/-- how a member of one written package relates to the member at the same place of another one: it is the same
    member, or both are the same XML part `k` of the root document (same name, method, extra field), holding the
    serialisation of tree `t` resp. `t'` -/
def MemberRel {β : Type} (ser : PartKind → UDoc → β) (t t' : UDoc) (m m' : Member β) : Prop :=
  m = m' ∨ ∃ k, m = ⟨partName k, .deflated, [], .xml (ser k t)⟩ ∧ m' = ⟨partName k, .deflated, [], .xml (ser k t')⟩

/-- styles.xml, content.xml and meta.xml of the root document are always written, from the table of bodies -/
theorem rootPart_written {β : Type} (B : PartKind → Nat → β) (d : Pkg.Doc) (hid : d.id = 0) (k : PartKind)
    (hk : k ≠ .settings) : (⟨partName k, .deflated, [], .xml (B k 0)⟩ : Member β) ∈ (write B d).members := by
  have hk : k ∈ ownKinds true d.hasSettings := by cases k <;> simp [ownKinds] at hk ⊢
  have hsub := (save_sub d).1
  rw [saveXml_own] at hsub
  have := hsub.1 (List.mem_append_left _ (List.mem_append_right _
    ((Out.sub_concat (g := fun k => emFile (partPath [] k) .deflated (.part k d.id) sTextXml) hk).1 List.mem_cons_self)))
  rw [partPath_top, hid] at this
  exact List.mem_map.mpr ⟨_, this, rfl⟩

theorem write_frame {β : Type} (X : XmlLayer β) (p : Package) (t t' : UDoc) (d : Pkg.Doc) (hid : d.id = 0)
    (hk : ∀ q ∈ objectsK d.folder.length d.children, q.2.id ≠ 0) :
    All2 (MemberRel X.ser t t') (write (bodies X p t) d).members (write (bodies X p t') d).members := by
  unfold write
  apply All2.map
  intro e he
  rcases atTop_save d hid hk e he with hno | ⟨k, rfl⟩
  · left
    unfold member
    cases hc : e.content with
    | part k i => simp [resolve, bodies, show i ≠ 0 from fun h0 => hno k (h0 ▸ hc)]
    | _ => rfl
  · exact Or.inr ⟨k, rfl, rfl⟩

/-! ### the theorems of the property -/

theorem transformPkg_some {β : Type} (X : XmlLayer β) (f : UDoc → UDoc) (p : Package) (w : Written β) :
    transformPkg X f p = some w ↔ ∃ d, load p = some d ∧ w = write (bodies X p (f (X.rootTree p))) d := by
  unfold transformPkg
  cases load p <;> simp [eq_comm]

/-- **C19 (frame independent of the content transformer)**: load a package, replace the root document's tree by ANY
    function of it, save.  Every member of the result is, at the same place of the member list, the member a plain
    load+save writes — mimetype, the parts of every embedded object at any depth, pictures of the root and of the
    objects, the thumbnail, the extras, META-INF/manifest.xml (whose body is the manifest entry list) — unless it is one
    of the four XML parts of the root document, and then it differs in nothing but the serialised tree.  Nothing is
    assumed about the package, the transformer or the XML layer. -/
theorem transform_members_frame {β : Type} (X : XmlLayer β) (f : UDoc → UDoc) (p : Package) (w0 w : Written β)
    (h0 : plainPkg X p = some w0) (h : transformPkg X f p = some w) :
    All2 (MemberRel X.ser (X.rootTree p) (f (X.rootTree p))) w0.members w.members ∧ w.manifest = w0.manifest := by
  obtain ⟨d, hl, rfl⟩ := (transformPkg_some X id p w0).mp h0
  obtain ⟨d', hl', rfl⟩ := (transformPkg_some X f p w).mp h
  cases hl.symm.trans hl'
  obtain ⟨hid, hk⟩ := load_ids p d hl d.folder.length
  exact ⟨write_frame X p _ _ d hid hk, rfl⟩

/-- a successful `update` is the transformer that puts the updated tree in the place of the source tree -/
theorem updatePkg_ok {β : Type} (X : XmlLayer β) (p : Package) (data : Data) (w : Written β)
    (h : updatePkg X p data = some (.ok w)) :
    ∃ t', updateDoc data (X.rootTree p) = .ok t' ∧ transformPkg X (fun _ => t') p = some w := by
  obtain ⟨d, hl, e⟩ := Option.map_eq_some_iff.mp h
  split at e
  · cases e
  · next t' hu => exact ⟨t', hu, by rw [transformPkg, hl]; exact congrArg some (Except.ok.inj e)⟩

/-- **C19 (`update_members_frame`)**: for every package, every update dictionary and every XML layer: the output of
    `update` has, place by place, the members of a plain `load`+`save` of the same source ("preserved as by an ordinary
    load and save": mimetype, every part of every embedded object, all pictures, the thumbnail, the extras, the manifest
    member), except that the XML parts of the root document (styles.xml, content.xml, settings.xml, meta.xml — same
    name, method and extra field) are serialised from the updated tree `t'`; and `t'` is, item by item, the source tree
    with one step of the update loop applied to each declaration and every other node identical (`ItemRel`). -/
theorem update_members_frame {β : Type} (X : XmlLayer β) (p : Package) (data : Data) (w0 w : Written β)
    (h0 : plainPkg X p = some w0) (h : updatePkg X p data = some (.ok w)) :
    ∃ t', updateDoc data (X.rootTree p) = .ok t' ∧ All2 (ItemRel data) (X.rootTree p) t' ∧
      All2 (MemberRel X.ser (X.rootTree p) t') w0.members w.members := by
  obtain ⟨t', hu, ht⟩ := updatePkg_ok X p data w h
  exact ⟨t', hu, C19.updateDoc_frame data _ _ hu, (transform_members_frame X _ p w0 w h0 ht).1⟩

/-- **C19 (`update_members_frame`, by place and by name)**: same number of members, same names in the same order, and
    the member at place `j` is identical to the one a plain load+save writes there unless its name is styles.xml,
    content.xml, settings.xml or meta.xml (top level); every member of the output not so named is a member of the plain
    load+save, and conversely. -/
theorem update_members_frame_named {β : Type} (X : XmlLayer β) (p : Package) (data : Data) (w0 w : Written β)
    (h0 : plainPkg X p = some w0) (h : updatePkg X p data = some (.ok w)) :
    w.members.map (·.name) = w0.members.map (·.name) ∧
    w.members.map (fun m => (m.method, m.extra)) = w0.members.map (fun m => (m.method, m.extra)) ∧
    (∀ (j : Nat) (m0 m : Member β), w0.members[j]? = some m0 → w.members[j]? = some m → m.name ∉ rootPartNames → m = m0) ∧
    (∀ m ∈ w.members, m.name ∉ rootPartNames → m ∈ w0.members) ∧
    (∀ m0 ∈ w0.members, m0.name ∉ rootPartNames → m0 ∈ w.members) := by
  obtain ⟨t', _, _, hall⟩ := update_members_frame X p data w0 w h0 h
  have heq : ∀ m0 m, MemberRel X.ser (X.rootTree p) t' m0 m → m.name ∉ rootPartNames ∨ m0.name ∉ rootPartNames → m = m0 := by
    rintro _ _ (rfl | ⟨k, rfl, rfl⟩) hn
    · rfl
    · exact absurd (partName_mem k) (hn.elim id id)
  -- related members differ in the body at most
  have hhead : ∀ m0 m, MemberRel X.ser (X.rootTree p) t' m0 m → m.name = m0.name ∧ (m.method, m.extra) = (m0.method, m0.extra) := by
    rintro _ _ (rfl | ⟨k, rfl, rfl⟩) <;> exact ⟨rfl, rfl⟩
  refine ⟨hall.map_eq fun a b h => (hhead a b h).1, hall.map_eq fun a b h => (hhead a b h).2,
    fun j m0 m hm0 hm hn => heq m0 m (hall.get j m0 m hm0 hm) (Or.inl hn), fun m hm hn => ?_, fun m0 hm0 hn => ?_⟩
  · obtain ⟨a, ha, hr⟩ := hall.mem_right m hm
    exact heq a m hr (Or.inl hn) ▸ ha
  · obtain ⟨b, hb, hr⟩ := hall.mem_left m0 hm0
    exact heq m0 b hr (Or.inr hn) ▸ hb

/-- **C19 (`update_manifest_same`)**: the manifest entry list of the output (paths, media types, folder entries, order)
    is identical to that of a plain load+save, and so is the META-INF/manifest.xml member that serialises it -/
theorem update_manifest_same {β : Type} (X : XmlLayer β) (p : Package) (data : Data) (w0 w : Written β)
    (h0 : plainPkg X p = some w0) (h : updatePkg X p data = some (.ok w)) :
    w.manifest = w0.manifest ∧
    (⟨sManifestPath, .deflated, [], .manifest w0.manifest⟩ : Member β) ∈ w.members ∧
    w.members.map (·.name) = sMimetype :: ((w0.manifest.filter (fun e => !e.isFolder)).map (·.path) ++ [sManifestPath]) := by
  obtain ⟨t', _, ht⟩ := updatePkg_ok X p data w h
  rw [← (transform_members_frame X _ p w0 w h0 ht).2]
  obtain ⟨d, _, rfl⟩ := (transformPkg_some X _ p w).mp ht
  refine ⟨rfl, ?_, ?_⟩
  · exact List.mem_map.mpr ⟨⟨sManifestPath, .deflated, [], .manifestXml⟩, by simp [save], rfl⟩
  · simp only [write, List.map_map]
    exact C03.manifest_exact_ordered d

/-- **C19 (only content.xml changes)**: if the serialisation of the other three parts of the root document does not
    see the value attributes the loop rewrites (meta.xml and settings.xml hold no declarations; styles.xml holds none
    unless a header or footer declares user fields — and then, in the code as in this model, they ARE updated;
    harness/c19.py generates such documents), then every member other than the top-level content.xml is identical to the
    one a plain load+save writes at the same place. -/
theorem update_members_frame_content_only {β : Type} (X : XmlLayer β) (p : Package) (data : Data) (w0 w : Written β)
    (h0 : plainPkg X p = some w0) (h : updatePkg X p data = some (.ok w))
    (hblind : ∀ k, k ≠ PartKind.content → ∀ t', All2 (ItemRel data) (X.rootTree p) t' → X.ser k t' = X.ser k (X.rootTree p)) :
    ∀ (j : Nat) (m0 m : Member β), w0.members[j]? = some m0 → w.members[j]? = some m → m.name ≠ sContent → m = m0 := by
  obtain ⟨t', _, hrel, hall⟩ := update_members_frame X p data w0 w h0 h
  intro j m0 m hm0 hm hn
  rcases hall.get j m0 m hm0 hm with rfl | ⟨k, rfl, rfl⟩
  · rfl
  · by_cases hk : k = .content
    · exact absurd (hk ▸ rfl) hn
    · rw [hblind k hk t' hrel]

theorem updateDoc_unnamed (data : Data) (t : UDoc) (h : ∀ f ∈ fieldsOf t, named data f = none) :
    updateDoc data t = .ok t := by
  induction t with
  | nil => rfl
  | cons it r ih =>
    cases it with
    | other x =>
      simp only [fieldsOf] at h
      simp only [updateDoc, ih h]
    | field f =>
      simp only [fieldsOf, List.mem_cons, forall_eq_or_imp] at h
      simp only [updateDoc, C19.updField_unnamed data f h.1, ih h.2]

/-- **C19 (no declaration named ⇒ an ordinary load and save)**: with a dictionary none of whose keys names a
    declaration (in particular the empty one) the tool writes exactly the package `load(src).save(dest)` writes -/
theorem update_unknown_names_pkg {β : Type} (X : XmlLayer β) (p : Package) (data : Data)
    (h : ∀ f ∈ fieldsOf (X.rootTree p), named data f = none) :
    updatePkg X p data = (plainPkg X p).map .ok := by
  unfold updatePkg plainPkg
  rw [updateDoc_unnamed data _ h]
  cases load p <;> rfl

/-- **C19 (content member — corollary with `C19.update_sets` / `updateDoc_frame`)**: after a successful update the
    top-level content.xml, styles.xml and meta.xml of the output are the serialisations of ONE tree `t'` such that
    listing the declarations of `t'` gives, in the same order and number, the new value for every declaration named by
    the dictionary and the source's row for every other one (`expectedView`), and `t'` has the source tree's nodes in
    place, everything that is not a declaration identical. -/
theorem update_content_member {β : Type} (X : XmlLayer β) (p : Package) (data : Data) (w : Written β)
    (h : updatePkg X p data = some (.ok w)) :
    ∃ t', (⟨sContent, .deflated, [], .xml (X.ser .content t')⟩ : Member β) ∈ w.members ∧
      (⟨sStyles, .deflated, [], .xml (X.ser .styles t')⟩ : Member β) ∈ w.members ∧
      (⟨sMeta, .deflated, [], .xml (X.ser .metadata t')⟩ : Member β) ∈ w.members ∧
      listFields (fieldsOf t') = (fieldsOf (X.rootTree p)).map (expectedView data) ∧
      All2 (ItemRel data) (X.rootTree p) t' := by
  obtain ⟨t', hu, ht⟩ := updatePkg_ok X p data w h
  obtain ⟨d, hl, rfl⟩ := (transformPkg_some X _ p w).mp ht
  have hw := fun k hk => rootPart_written (bodies X p t') d (load_ids p d hl 0).1 k hk
  exact ⟨t', hw .content (by decide), hw .styles (by decide), hw .metadata (by decide),
    C19.update_sets data _ _ (C19.fieldsOf_updateDoc data _ _ hu), C19.updateDoc_frame data _ _ hu⟩

/-- **C19 (`list_readonly_pkg`)**: listing computes its rows from the loaded source and produces no package: source
    and destination are what they were (the method has no `savedoc()`; tied to the code by hashing the source bytes and
    the destination before and after, harness/c19.py) -/
theorem list_readonly_pkg {β : Type} (X : XmlLayer β) (s : PkgState β) :
    (listPkg X s).2 = s ∧
    (listPkg X s).1 = (load s.src).map (fun _ => listFields (fieldsOf (X.rootTree s.src))) := ⟨rfl, rfl⟩

/-- a converter that refuses a value leaves nothing written: the result carries no package -/
theorem update_error_writes_nothing {β : Type} (X : XmlLayer β) (p : Package) (data : Data) (e : Err)
    (h : updateDoc data (X.rootTree p) = .error e) :
    updatePkg X p data = (load p).map (fun _ => .error e) := by
  unfold updatePkg
  rw [h]

/-! ### the hypotheses are satisfiable: a package with a thumbnail, a picture, extras and nested embedded objects -/

/-- a date declaration (with a stale office:value) and a string declaration between other nodes -/
def sampleTree : UDoc :=
  [.other 1, .field ⟨[(0, [100]), (1, [100, 97, 116, 101]), (3, [49]), (2, [57])]⟩, .other 2,
   .field ⟨[(0, [115]), (1, [115, 116, 114, 105, 110, 103]), (6, [120])]⟩]

/-- the nodes that are not declarations -/
def othersOnly : UDoc → UDoc
  | [] => []
  | .other x :: r => .other x :: othersOnly r
  | .field _ :: r => othersOnly r

/-- a transparent XML layer: content.xml is (content, whole tree); the other parts of the root hold no declarations;
    a sub-document's part names its owner -/
def sampleLayer : XmlLayer (PartKind × UDoc) :=
  ⟨fun _ => sampleTree, fun k t => (k, if k = .content then t else othersOnly t), fun _ k i => (k, [.other i])⟩

theorem othersOnly_rel (data : Data) (t t' : UDoc) (h : All2 (ItemRel data) t t') : othersOnly t' = othersOnly t := by
  induction h with
  | nil => rfl
  | @cons a b as bs hab _ ih =>
    cases a <;> cases b <;> simp only [ItemRel] at hab
    · simp only [othersOnly, ih]
    · subst hab; simp only [othersOnly, ih]

/-- the hypothesis of `update_members_frame_content_only` holds for the sample layer, whatever the dictionary -/
theorem sampleLayer_blind (data : Data) (p : Package) :
    ∀ k, k ≠ PartKind.content → ∀ t', All2 (ItemRel data) (sampleLayer.rootTree p) t' →
      sampleLayer.ser k t' = sampleLayer.ser k (sampleLayer.rootTree p) := by
  intro k hk t' h
  simp only [sampleLayer, hk, if_false, othersOnly_rel data _ _ h]

/-- updating the date field `d` (and an undeclared name) -/
def sampleData : Data := [([100], [50]), ([122], [51])]

/-- `C03.samplePackage` (thumbnail, "Pictures/a", "Object 7/" with a picture, a file, a meta.xml and an object of its
    own, "Object 5/y", "x/y", "x/") loads and the update succeeds; the output is NOT the plain load+save; the manifests
    are equal; the only place where the member lists differ is content.xml; the content.xml of the nested object
    "Object 7/Object 1/" is the part of the sub-document with id 12, and "Pictures/a" holds the source's byte -/
example :
    (match plainPkg sampleLayer C03.samplePackage, updatePkg sampleLayer C03.samplePackage sampleData with
     | some w0, some (.ok w) =>
        (decide (w.members = w0.members), decide (w.manifest = w0.manifest),
         (List.zip w0.members w.members).filterMap (fun x => if x.1 = x.2 then none else some x.2.name),
         w.members.any (fun m => m.name == objPrefix 7 ++ objPrefix 1 ++ sContent
            && decide (m.body = .xml (PartKind.content, [.other 12]))),
         w.members.any (fun m => m.name == sPictures ++ [97] && decide (m.body = .bytes [1])))
     | _, _ => (true, false, [], false, false))
    = (false, true, [sContent], true, true) := by
  decide +kernel

/-- the member names of that output, in writing order -/
example :
    (match updatePkg sampleLayer C03.samplePackage sampleData with
     | some (.ok w) => w.members.map (·.name)
     | _ => [])
    = [sMimetype, sStyles, sContent, sMeta, objPrefix 7 ++ sStyles, objPrefix 7 ++ sContent,
       objPrefix 7 ++ objPrefix 1 ++ sStyles, objPrefix 7 ++ objPrefix 1 ++ sContent,
       sPictures ++ [97], objPrefix 7 ++ sPictures ++ [98], sThumb, objPrefix 5 ++ [121], [120, 47, 121],
       objPrefix 7 ++ [120], objPrefix 7 ++ sMeta, sManifestPath] := by
  decide +kernel

/-- a value the boolean converter refuses: nothing is written -/
example :
    let X : XmlLayer (PartKind × UDoc) :=
      ⟨fun _ => [.field ⟨[(0, [98]), (1, [98, 111, 111, 108, 101, 97, 110]), (5, [116, 114, 117, 101])]⟩],
       fun k t => (k, t), fun _ k i => (k, [.other i])⟩
    updatePkg X C03.samplePackage [([98], [109, 97, 121, 98, 101])] = (load C03.samplePackage).map (fun _ => .error .valueError) :=
  update_error_writes_nothing _ _ _ _ rfl

end OdfModel.Props.C19Pkg
