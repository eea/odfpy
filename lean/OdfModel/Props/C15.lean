/-
  Property C15 — schema-valid attribute values are accepted and kept unchanged.

  Theorems about `OdfModel.AttrConv` (model of odf/attrconverters.py) over the tables that
  harness/translate_attr.py regenerates on every run:
    Generated/AttrConv.lean    regexes of the code (as `RE` terms), converter shapes + literal tuples
    Generated/AttrSchema.lean  the schema's pattern facets (as `RE` terms), attribute datatypes
    Generated/AttrTable.lean   the `attrconverters` dict and the schema's attribute occurrences

  The property on the model, in full, is three statements (in words here: no definition states their
  conjunction):
    (1) for every (element, attribute, datatype) occurrence `o` of an entry `t` of `attrTable`, the converter
        bound there accepts every lexical value of the datatype and keeps it:
        `Compatible (kindOf (convertIdx bindings t.1 o.1)) (dtOf o.2)`;
    (2) converting again is a no-op: `cnv i s = .ok r → cnv i r = .ok r` for every converter `i`;
    (3) a converter of a validating kind returns its argument unchanged when the whole string is in the
        kind's language, and raises `ValueError` otherwise.
  Proved: (3) in full (`validated_full`, `validated_table`); (2) in full (`idempotent`, every converter of
  the regenerated table); (1) for every occurrence outside the one (converter, datatype) cell of
  `knownCells` (`binding_compatible`), which has a proved counter-example (`finding_qname_unprefixed`).

  `Lex` is the set of *canonical* lexical forms of a datatype (no insignificant outer white space
  for token-typed values); for XSD built-in types without a modelled grammar it is an upper bound
  (so `Compatible` is proved for a superset of the schema-valid values, never a subset).
-/
import OdfModel.AttrConv
import OdfModel.Generated.AttrSchema
import OdfModel.Generated.AttrTable
import OdfModel.BitSet
namespace OdfModel.Props.C15
open OdfModel OdfModel.Regex OdfModel.Attr
open OdfModel.Generated

/-! ## 1. The translator recognised the shape of every converter -/

def noOpaque : Kind → Bool
  | .unknown => false
  | .firstOf a b => noOpaque a && noOpaque b
  | _ => true

/-- every `cnv_*` function (and everything the dict binds) has a recognised shape -/
theorem no_opaque_kind : (AttrConv.converters.all fun p => noOpaque p.2) = true := by decide +kernel

/-- `str.lower()` never produces an all-ASCII multi-character expansion (complete probe), so comparing
    `lower s` with ASCII literals is decided character by character through `lowerPairs` -/
theorem lower_probe_clean : AttrConv.lowerMultiAscii = [] := by decide +kernel

/-! ## 2. Validated kinds: accepted iff the whole string is in the language, and returned unchanged -/

/-- the language a validating converter accepts -/
def codeAccepts : Kind → Str → Bool
  | .enum vals, s => vals.contains s
  | .pattern _ r, s => accepts r s
  | .firstOf a b, s => codeAccepts a s || codeAccepts b s
  | _, _ => true

/-- enumerations, full-match patterns, and first-of combinations of those -/
def validating : Kind → Bool
  | .enum _ => true
  | .pattern m _ => m == .full
  | .firstOf a b => validating a && validating b
  | _ => false

/-- **C15 (validated types)**: a validating converter returns its argument unchanged when the *whole*
    string is in its language and raises `ValueError` otherwise. -/
theorem validated_full (K : Kind) (hv : validating K = true) (s : Str) :
    cnvK K s = if codeAccepts K s = true then .ok s else .error .valueError := by
  induction K with
  | enum vals => simp [cnvK, codeAccepts]
  | pattern m r =>
    have : m = .full := by simpa [validating] using hv
    subst this
    by_cases h : accepts r s = true <;> simp [cnvK, codeAccepts, matchMode, h]
  | firstOf a b iha ihb =>
    simp only [validating, Bool.and_eq_true] at hv
    simp only [cnvK, codeAccepts, iha hv.1, ihb hv.2]
    by_cases h1 : codeAccepts a s = true <;> by_cases h2 : codeAccepts b s = true <;> simp [h1, h2]
  | _ => simp [validating] at hv

/-- accepted ⇒ full match and unchanged -/
theorem validated_full_ok {K : Kind} (hv : validating K = true) {s r : Str} (h : cnvK K s = .ok r) :
    codeAccepts K s = true ∧ r = s := by
  rw [validated_full K hv s] at h
  split at h
  · exact ⟨‹_›, (Except.ok.inj h).symm⟩
  · cases h

/-- not in the language ⇒ `ValueError` (suffix junk, trailing newline, wrong unit, …) -/
theorem validated_reject {K : Kind} (hv : validating K = true) {s : Str} (h : codeAccepts K s = false) :
    cnvK K s = .error .valueError := by
  rw [validated_full K hv s]; simp [h]

/-- the converters the property calls validated (lengths, percentages, point lists, view boxes,
    enumerations) are validating in the table regenerated from the source: in particular every regex
    is applied as a full match (`match` on a pattern ending in `\Z`, or `fullmatch`) -/
theorem validated_table :
    ([AttrConv.c_cnv_length, AttrConv.c_cnv_percent, AttrConv.c_cnv_lengthorpercent, AttrConv.c_cnv_points,
      AttrConv.c_cnv_viewbox, AttrConv.c_cnv_language, AttrConv.c_cnv_namespacedToken,
      AttrConv.c_cnv_configtype, AttrConv.c_cnv_data_source_has_labels, AttrConv.c_cnv_draw_aspect,
      AttrConv.c_cnv_family, AttrConv.c_cnv_legend_position, AttrConv.c_cnv_list_linkage_type,
      AttrConv.c_cnv_major_minor, AttrConv.c_cnv_metavaluetype, AttrConv.c_cnv_rowOrCol,
      AttrConv.c_cnv_stroke_linecap, AttrConv.c_cnv_textnoteclass, AttrConv.c_cnv_xlinkshow,
      AttrConv.c_cnv_xlinktype].all fun i => validating (kindOf i)) = true := by decide +kernel

/-- no pattern anywhere in the converter table is applied as a prefix / `$` / search match -/
def fullOnly : Kind → Bool
  | .pattern m _ => m == .full
  | .firstOf a b => fullOnly a && fullOnly b
  | _ => true

theorem patterns_full_match : (AttrConv.converters.all fun p => fullOnly p.2) = true := by decide +kernel

example : cnv AttrConv.c_cnv_length (lit "12.5cm") = .ok (lit "12.5cm") := by decide +kernel
example : cnv AttrConv.c_cnv_length (lit "12cmXYZ") = .error .valueError := by decide +kernel
example : cnv AttrConv.c_cnv_length (lit "12cm\n") = .error .valueError := by decide +kernel

/-! ## 3. Converting a stored value again is a no-op -/

theorem replaceCp_of_not_mem {c : Nat} {s : Str} (h : c ∉ s) : replaceCp c s = s := by
  fun_induction replaceCp c s with
  | case1 => rfl
  | case2 r ih => exact absurd List.mem_cons_self h
  | case3 y r hy ih => rw [ih fun hm => h (List.mem_cons_of_mem _ hm)]
theorem mem_replaceCp {x c : Nat} {s : Str} (h : x ∈ replaceCp c s) : x ∈ hexEsc c ∨ (x ∈ s ∧ x ≠ c) := by
  fun_induction replaceCp c s with
  | case1 => cases h
  | case2 r ih =>
    rcases List.mem_append.mp h with h | h
    · exact .inl h
    · exact (ih h).imp id fun ⟨a, b⟩ => ⟨List.mem_cons_of_mem _ a, b⟩
  | case3 y r hy ih =>
    rcases List.mem_cons.mp h with rfl | h
    · exact .inr ⟨List.mem_cons_self, hy⟩
    · exact (ih h).imp id fun ⟨a, b⟩ => ⟨List.mem_cons_of_mem _ a, b⟩

/-- `make_NCName`'s loop: `cnvK (.hexEscape cs) s` is `.ok (esc cs s)` by definition -/
def esc (cs : List Nat) (s : Str) : Str := cs.foldl (fun acc c => replaceCp c acc) s

theorem esc_cons (d : Nat) (ds : List Nat) (s : Str) : esc (d :: ds) s = esc ds (replaceCp d s) := rfl

theorem mem_esc {x : Nat} (cs : List Nat) {s : Str} (h : x ∈ esc cs s) :
    (x ∈ s ∧ x ∉ cs) ∨ ∃ c ∈ cs, x ∈ hexEsc c := by
  induction cs generalizing s with
  | nil => exact .inl ⟨h, by simp⟩
  | cons d ds ih =>
    rcases ih (esc_cons d ds s ▸ h) with ⟨h1, h2⟩ | ⟨c, hc, hx⟩
    · rcases mem_replaceCp h1 with h3 | ⟨h3, h4⟩
      · exact .inr ⟨d, by simp, h3⟩
      · exact .inl ⟨h3, by simp [h4, h2]⟩
    · exact .inr ⟨c, by simp [hc], hx⟩

/-- no escape sequence contains a character that is itself escaped -/
def escSafe (cs : List Nat) : Bool := cs.all fun c => cs.all fun c' => !(hexEsc c').contains c

theorem escSafe_spec {cs : List Nat} (h : escSafe cs = true) : ∀ c ∈ cs, ∀ c' ∈ cs, c ∉ hexEsc c' := by
  intro c hc c' hc'
  simp only [escSafe, List.all_eq_true] at h
  have := h c hc c' hc'
  simpa using this

theorem esc_of_clean (cs : List Nat) (s : Str) (h : ∀ c ∈ cs, c ∉ s) : esc cs s = s := by
  induction cs generalizing s with
  | nil => rfl
  | cons d ds ih =>
    rw [esc_cons, replaceCp_of_not_mem (h d (by simp))]
    exact ih s (fun c hc => h c (by simp [hc]))

/-- converters that can only return their argument -/
def pureKind : Kind → Bool
  | .identity => true
  | .enum _ => true
  | .pattern _ _ => true
  | .firstOf a b => pureKind a && pureKind b
  | _ => false

theorem pure_sound {K : Kind} {s r : Str} (hr : cnvK K s = .ok r) (h : pureKind K = true) : r = s := by
  induction K generalizing r with
  | identity => exact (Except.ok.inj hr).symm
  | enum vals | pattern m re =>
    simp only [cnvK] at hr
    split at hr
    · exact (Except.ok.inj hr).symm
    · cases hr
  | firstOf a b iha ihb =>
    simp only [pureKind, Bool.and_eq_true] at h
    simp only [cnvK] at hr
    split at hr
    · next x hx => exact Except.ok.inj hr ▸ iha hx h.1
    · split at hr
      · next y hy => exact Except.ok.inj hr ▸ ihb hy h.2
      · cases hr
  | _ => simp [pureKind] at h

/-- `r = .ok s`, as a Boolean -/
def yields (r : Except Err Str) (s : Str) : Bool :=
  match r with
  | .ok x => x == s
  | .error _ => false

theorem yields_spec {r : Except Err Str} {s : Str} (h : yields r s = true) : r = .ok s := by
  cases r with
  | ok x => simp [yields] at h; rw [h]
  | error e => simp [yields] at h

/-- a decidable sufficient condition for "a second conversion changes nothing" -/
def okKind : Kind → Bool
  | .identity => true
  | .enum _ => true
  | .pattern _ _ => true
  | .ciMap cases => cases.all fun c => yields (cnvK (.ciMap cases) c.2) c.2
  | .hexEscape cs => escSafe cs
  | .joinChars _ => false
  | .firstOf a b => pureKind a && pureKind b
  | .unknown => true

theorem idempotent_kind (K : Kind) (h : okKind K = true) {s r : Str} (hr : cnvK K s = .ok r) :
    cnvK K r = .ok r := by
  cases K with
  | identity => rfl
  | enum _ | pattern _ _ | firstOf _ _ =>
    -- on these shapes `okKind` is `pureKind`: the converter can only return its argument
    obtain rfl := pure_sound hr h
    exact hr
  | ciMap cases =>
    simp only [cnvK] at hr
    split at hr
    · next c hc =>
      simp only [okKind, List.all_eq_true] at h
      exact Except.ok.inj hr ▸ yields_spec (h c (List.mem_of_find?_eq_some hc))
    · cases hr
  | hexEscape cs =>
    have hsafe := escSafe_spec (by simpa [okKind] using h)
    -- what the loop left is not escaped, or comes from an escape sequence, and those hold no escaped character
    have hclean : ∀ c ∈ cs, c ∉ r := by
      intro c hc hm
      rcases mem_esc cs (Except.ok.inj hr ▸ hm) with ⟨_, h⟩ | ⟨c', hc', h⟩
      · exact h hc
      · exact hsafe c hc c' hc' h
    exact congrArg Except.ok (esc_of_clean cs r hclean)
  | joinChars sep => simp [okKind] at h
  | unknown => cases hr

theorem idempotent_table : (AttrConv.converters.all fun p => okKind p.2) = true := by decide +kernel

/-- **C15 (second conversion is a no-op)**: for every converter of the table regenerated from the source,
    converting a stored value again returns it unchanged. -/
theorem idempotent (i : Nat) (s r : Str) (h : cnv i s = .ok r) : cnv i r = .ok r := by
  have hk : okKind (kindOf i) = true := by
    unfold kindOf
    split
    · next p hp => exact List.all_eq_true.mp idempotent_table p (List.mem_of_getElem? hp)
    · rfl
  exact idempotent_kind _ hk h

example : cnv AttrConv.c_cnv_NCNames (lit "P1 P2") = .ok (lit "P1 P2") := by decide +kernel
example : cnv AttrConv.c_cnv_boolean (lit "TRUE") = .ok (lit "true") ∧
    cnv AttrConv.c_cnv_boolean (lit "true") = .ok (lit "true") := by decide +kernel

/-! ## 4. The code's regexes against the schema's own pattern facets -/

/-- schema pattern number `i` (`nothing` if the index is unknown or the syntax was outside the subset) -/
def spat (i : Nat) : RE :=
  match AttrSchema.schemaPatterns[i]? with
  | some (some p) => p
  | _ => .nothing

/-- **pattern_same**: the regex of `cnv_length` is, term for term, the schema's pattern for `length`
    (hence the same language for *all* strings, `Regex.same_language`); likewise the others. -/
theorem pattern_same_length : AttrConv.pat_length = spat AttrSchema.sp_length := by decide +kernel
theorem pattern_same_percent : AttrConv.pat_percent = spat AttrSchema.sp_percent := by decide +kernel
theorem pattern_same_points : AttrConv.pat_points = spat AttrSchema.sp_points := by decide +kernel
theorem pattern_same_color : AttrConv.pat_color = spat AttrSchema.sp_color := by decide +kernel
theorem pattern_same_vector3D : AttrConv.pat_vector3D = spat AttrSchema.sp_vector3D := by decide +kernel

/-- **pattern_incl**: where the regexes differ, inclusion of languages is *decided* by the checked
    simulation `Regex.inclB` and lifted to all strings by `Regex.inclB_sound`. -/
theorem pattern_incl_nonNegativeLength (s : Str) :
    accepts (spat AttrSchema.sp_nonNegativeLength) s = true → accepts AttrConv.pat_length s = true :=
  inclB_sound (by decide +kernel) s
theorem pattern_incl_positiveLength (s : Str) :
    accepts (spat AttrSchema.sp_positiveLength) s = true → accepts AttrConv.pat_length s = true :=
  inclB_sound (by decide +kernel) s
theorem pattern_incl_nonNegativePixelLength (s : Str) :
    accepts (spat AttrSchema.sp_nonNegativePixelLength) s = true → accepts AttrConv.pat_length s = true :=
  inclB_sound (by decide +kernel) s
theorem pattern_incl_zeroToHundredPercent (s : Str) :
    accepts (spat AttrSchema.sp_zeroToHundredPercent) s = true → accepts AttrConv.pat_percent s = true :=
  inclB_sound (by decide +kernel) s
theorem pattern_incl_signedZeroToHundredPercent (s : Str) :
    accepts (spat AttrSchema.sp_signedZeroToHundredPercent) s = true → accepts AttrConv.pat_percent s = true :=
  inclB_sound (by decide +kernel) s

/-- the lexical space of `xsd:language` (XML Schema Part 2, §3.3.3): `[a-zA-Z]{1,8}(-[a-zA-Z0-9]{1,8})*` -/
def xsdLanguage : RE :=
  .seq (RE.rep 1 8 (.cls false [(65, 90), (97, 122)]))
    (.star (.seq (RE.chr 45) (RE.rep 1 8 (.cls false [(65, 90), (97, 122), (48, 57)]))))

/-- `cnv_language` accepts exactly the `xsd:language` lexical space -/
theorem pattern_language_incl (s : Str) :
    accepts xsdLanguage s = true → accepts AttrConv.pat_language s = true :=
  inclB_sound (by decide +kernel) s
theorem pattern_language_incl_rev (s : Str) :
    accepts AttrConv.pat_language s = true → accepts xsdLanguage s = true :=
  inclB_sound (by decide +kernel) s

/-- XML white space (the separators of a RELAX-NG / XSD list) -/
def xmlSpace : RE := .cls false [(32, 32), (9, 9), (10, 10), (13, 13)]

/-- the lexical space of `xsd:integer`: an optional sign and digits -/
def xsdInteger : RE := .seq (RE.opt (.cls false [(43, 43), (45, 45)])) (RE.plus (.cls false [(48, 57)]))

/-- lexical space of the XSD built-in types that occur as list items (others: not refined) -/
def xsdItemRE : XsdTy → Option RE
  | .integer => some xsdInteger
  | _ => none

/-- `n` items separated by runs of XML white space (canonical: no white space before the first / after the last item) -/
def listRE (item : RE) : Nat → RE
  | 0 => .eps
  | n + 1 => .seq item (RE.rep n n (.seq (RE.plus xmlSpace) item))

/-- **pattern_incl (view box)**: every list of four `xsd:integer` is accepted by `cnv_viewbox`'s regex -/
theorem pattern_incl_viewbox (s : Str) :
    accepts (listRE xsdInteger 4) s = true → accepts AttrConv.pat_viewbox s = true :=
  inclB_sound (by decide +kernel) s

/-- an NCName by the productions of XML 1.0 (5th edition) / Namespaces in XML: NameStartChar and NameChar without ':' -/
def ncNameStart : List (Nat × Nat) :=
  [(65, 90), (95, 95), (97, 122), (0xC0, 0xD6), (0xD8, 0xF6), (0xF8, 0x2FF), (0x370, 0x37D), (0x37F, 0x1FFF),
   (0x200C, 0x200D), (0x2070, 0x218F), (0x2C00, 0x2FEF), (0x3001, 0xD7FF), (0xF900, 0xFDCF), (0xFDF0, 0xFFFD),
   (0x10000, 0xEFFFF)]
def xmlNCName : RE :=
  .seq (.cls false ncNameStart)
    (.star (.cls false (ncNameStart ++ [(45, 45), (46, 46), (48, 57), (0xB7, 0xB7), (0x300, 0x36F), (0x203F, 0x2040)])))

/-- a prefixed `xsd:QName` -/
def prefixedQName : RE := .seq xmlNCName (.seq (RE.chr 58) xmlNCName)

/-- **pattern_incl (namespaced token)**: every *prefixed* QName, with any XML name characters, is accepted by
    `cnv_namespacedToken`'s regex, and nothing else is (the unprefixed half of `xsd:QName` is KF-C15-6) -/
theorem pattern_incl_prefixedQName (s : Str) :
    accepts prefixedQName s = true → accepts AttrConv.pat_namespacedToken s = true :=
  inclB_sound (by decide +kernel) s
theorem pattern_incl_prefixedQName_rev (s : Str) :
    accepts AttrConv.pat_namespacedToken s = true → accepts prefixedQName s = true :=
  inclB_sound (by decide +kernel) s

/-! ## 5. Datatypes of the schema and compatibility of a converter with a datatype -/

def noColonBlank (s : Str) : Bool := s.all fun c => c != 58 && c != 32

/-- upper bound of the lexical space of an XSD built-in type (exact for `language`; `NCName`-like
    types: no colon, no blank; everything else: any string) -/
def xsdUB : XsdTy → Str → Bool
  | .NCName, s => noColonBlank s
  | .ID, s => noColonBlank s
  | .IDREF, s => noColonBlank s
  | .language, s => accepts xsdLanguage s
  | _, _ => true

/-- the pattern facet restricts the lexical space of `string`-based types (for `token` the facet applies
    after white-space collapsing, so it is not used as a bound) -/
def patUB (ty : XsdTy) (pat : Option Nat) (s : Str) : Bool :=
  match ty, pat with
  | .string, some i =>
    match AttrSchema.schemaPatterns[i]? with
    | some (some p) => accepts p s
    | _ => true
  | _, _ => true

def atomLex : Atom → Str → Bool
  | .val v, s => s == v
  | .data ty pat, s => xsdUB ty s && patUB ty pat s
  | .list, _ => true
  | .listN ty n, s =>
    match xsdItemRE ty with
    | some it => accepts (listRE it n) s
    | none => true
  | .text, _ => true
  | .empty, s => s == []

/-- `s` is a (canonical) lexical value of the datatype -/
def Lex (D : DT) (s : Str) : Bool := D.any fun a => atomLex a s

/-- the converter accepts every lexical value of the datatype and returns it unchanged
    (so it is stored, written and re-converted unchanged) -/
def Compatible (K : Kind) (D : DT) : Prop := ∀ s, Lex D s = true → cnvK K s = .ok s

def isNameTy : XsdTy → Bool
  | .NCName => true
  | .ID => true
  | .IDREF => true
  | _ => false

def isIdentity : Kind → Bool
  | .identity => true
  | _ => false

theorem xsdUB_name {ty : XsdTy} (h : isNameTy ty = true) (s : Str) : xsdUB ty s = noColonBlank s := by
  cases ty <;> simp [isNameTy] at h <;> rfl

theorem isIdentity_spec {K : Kind} (h : isIdentity K = true) (s : Str) : cnvK K s = .ok s := by
  cases K <;> simp [isIdentity] at h
  simp [cnvK]

theorem esc_of_noColonBlank {cs : List Nat} {s : Str}
    (hcs : (cs.all fun c => c == 58 || c == 32) = true) (hs : noColonBlank s = true) : esc cs s = s := by
  apply esc_of_clean
  intro c hc hmem
  simp only [List.all_eq_true, Bool.or_eq_true, beq_iff_eq] at hcs
  simp only [noColonBlank, List.all_eq_true, Bool.and_eq_true, bne_iff_ne, ne_eq] at hs
  exact (hcs c hc).elim (hs c hmem).1 (hs c hmem).2

/-- a regex whose language contains every lexical value of the atom, where the schema gives one -/
def atomRE : Atom → Option RE
  | .data .string (some i) => (AttrSchema.schemaPatterns[i]?).join
  | .data .language _ => some xsdLanguage
  | .listN ty n => (xsdItemRE ty).map (listRE · n)
  | _ => none

theorem atomRE_sound {a : Atom} {p : RE} (h : atomRE a = some p) {s : Str} (hl : atomLex a s = true) :
    accepts p s = true := by
  unfold atomRE at h
  split at h
  · rw [Option.join_eq_some_iff] at h
    simp only [atomLex, patUB, h, Bool.and_eq_true] at hl
    exact hl.2
  · cases h
    simp only [atomLex, xsdUB, Bool.and_eq_true] at hl
    exact hl.1
  · obtain ⟨it, hit, rfl⟩ := Option.map_eq_some_iff.mp h
    simpa only [atomLex, hit] using hl
  · cases h

def Incls (known : List (RE × RE)) : Prop := ∀ p ∈ known, ∀ s, accepts p.1 s = true → accepts p.2 s = true

section
variable (known : List (RE × RE))

/-- `L(a) ⊆ L(b)`, looked up among the inclusions already proved and decided by `inclB` only when it is not there -/
def inclK (a b : RE) : Bool := known.contains (a, b) || inclB a b

/-- `K` accepts every lexical value of atom `a` and returns it unchanged, decided by the shape of `K`: a full-match
    pattern whose language includes that of the atom's regex; `make_NCName` on a name type when it escapes only ':'
    and ' ', which no such name contains; a first-of whose first member cannot alter its argument. -/
def kindCompatB : Kind → Atom → Bool
  | .identity, _ => true
  | .pattern m r, a =>
    m == .full && match atomRE a with
      | some p => p == r || inclK known p r
      | none => false
  | .hexEscape cs, .data ty _ => isNameTy ty && cs.all fun c => c == 58 || c == 32
  | .firstOf x y, a => pureKind x && (kindCompatB x a || kindCompatB y a)
  | _, _ => false

/-- `val` and `empty` atoms have one lexical value: the converter is run on it -/
def atomCompatB (K : Kind) : Atom → Bool
  | .val v => yields (cnvK K v) v
  | .empty => yields (cnvK K []) []
  | a => kindCompatB known K a

def CompatB (K : Kind) (D : DT) : Bool := D.all fun a => atomCompatB known K a

variable {known} (hk : Incls known)
include hk

theorem inclK_sound {a b : RE} (h : inclK known a b = true) (s : Str) :
    accepts a s = true → accepts b s = true := by
  simp only [inclK, Bool.or_eq_true, List.contains_iff_mem] at h
  rcases h with h | h
  · exact hk (a, b) h s
  · exact inclB_sound h s

theorem kindCompat_sound (K : Kind) {a : Atom} (h : kindCompatB known K a = true) (s : Str)
    (hl : atomLex a s = true) : cnvK K s = .ok s := by
  induction K with
  | identity => rfl
  | pattern m r =>
    simp only [kindCompatB, Bool.and_eq_true, beq_iff_eq] at h
    obtain ⟨rfl, h⟩ := h
    cases hp : atomRE a with
    | none => simp [hp] at h
    | some p =>
      have hacc := atomRE_sound hp hl
      simp only [hp, Bool.or_eq_true, beq_iff_eq] at h
      have : accepts r s = true := h.elim (· ▸ hacc) (inclK_sound hk · s hacc)
      simp [cnvK, matchMode, this]
  | hexEscape cs =>
    cases a with
    | data ty pat =>
      simp only [kindCompatB, Bool.and_eq_true] at h
      simp only [atomLex, Bool.and_eq_true, xsdUB_name h.1] at hl
      exact congrArg Except.ok (esc_of_noColonBlank h.2 hl.1)
    | _ => simp [kindCompatB] at h
  | firstOf x y ihx ihy =>
    simp only [kindCompatB, Bool.and_eq_true, Bool.or_eq_true] at h
    obtain ⟨hp, h⟩ := h
    simp only [cnvK]
    rcases h with h | h
    · rw [ihx h]
    · cases hx : cnvK x s with
      | ok r => rw [pure_sound hx hp]
      | error e => simp [ihy h]
  | _ => simp [kindCompatB] at h

theorem compatB_sound {K : Kind} {D : DT} (h : CompatB known K D = true) : Compatible K D := by
  intro s hs
  obtain ⟨a, ha, hl⟩ := List.any_eq_true.mp hs
  have h : atomCompatB known K a = true := List.all_eq_true.mp h a ha
  cases a with
  | val v => rw [show s = v by simpa [atomLex] using hl]; exact yields_spec h
  | empty => rw [show s = [] by simpa [atomLex] using hl]; exact yields_spec h
  | _ => exact kindCompat_sound hk K h s hl

end

/-! ## 6. The table theorem: every (element, attribute, datatype) occurrence of the schema -/

def dtOf (i : Nat) : DT :=
  match AttrSchema.dts[i]? with
  | some d => d
  | none => [.text]

/-- The (converter, datatype) cells on which the bound converter is **not** compatible with the schema's
    datatype.  Each is a defect of odfpy recorded in known-findings/C15.txt and shown by a
    proved counter-example below; any other incompatible cell breaks `cells_ok`. -/
def knownCells : List (Nat × DT) := [
  -- KF-C15-6  namespacedToken = xsd:QName, whose prefix is optional; the code requires `prefix:local`
  --           (an unprefixed value being refused is pinned by tests/testchart.py::testChart)
  (AttrConv.c_cnv_namespacedToken, [.data .QName none])
]

def knownCell (c : Nat × Nat) : Bool := knownCells.any fun k => k.1 == c.1 && k.2 == dtOf c.2

/-- the translator numbers the identity-shaped converters first: every index below `nIdentity` is one of
    them, and the pseudo converter `str` (`strIdx`, what `convert` falls back to) lies below it too -/
theorem identity_prefix :
    ((List.range AttrConv.nIdentity).all fun i => isIdentity (kindOf i)) = true := by decide +kernel

/-- the inclusions that the cells of the tables need (any other pair `inclK` decides by `inclB`) -/
def inclusions : List (RE × RE) :=
  [(spat AttrSchema.sp_nonNegativeLength, AttrConv.pat_length), (xsdLanguage, AttrConv.pat_language),
   (listRE xsdInteger 4, AttrConv.pat_viewbox)]

theorem inclusions_proved : Incls inclusions := by
  simp only [Incls, inclusions, List.forall_mem_cons]
  exact ⟨pattern_incl_nonNegativeLength, pattern_language_incl, pattern_incl_viewbox, by simp⟩

theorem cells_ok :
    (AttrTable.cellsNI.all fun c => CompatB inclusions (kindOf c.1) (dtOf c.2) || knownCell c) = true := by
  decide +kernel

/-- a (converter, datatype) pair as one number, for the bit set of `cellsNI` (datatype ids are below 4096: `cellOK` asks) -/
def cellCode (c dt : Nat) : Nat := Nat.add (Nat.mul c 4096) dt

def cellBits : Nat := bitsOf (AttrTable.cellsNI.map fun p => cellCode p.1 p.2)

def cellOK (c dt : Nat) : Bool :=
  Nat.blt c AttrConv.nIdentity || (Nat.blt dt 4096 && cellBits.testBit (cellCode c dt))

theorem cells_dt_small : (AttrTable.cellsNI.all fun p => Nat.blt p.2 4096) = true := by decide +kernel

theorem cellOK_spec {c dt : Nat} (h : cellOK c dt = true) : c < AttrConv.nIdentity ∨ (c, dt) ∈ AttrTable.cellsNI := by
  simp only [cellOK, cellBits, testBit_bitsOf, Bool.or_eq_true, Bool.and_eq_true, Nat.blt_eq,
    List.contains_iff_mem, List.mem_map] at h
  rcases h with h | ⟨hd, p, hp, hc⟩
  · exact Or.inl h
  · -- equal codes with both datatypes below 4096 are equal pairs
    have hp2 : p.2 < 4096 := by simpa using List.all_eq_true.mp cells_dt_small p hp
    have hc' : p.1 * 4096 + p.2 = c * 4096 + dt := hc
    have : p = (c, dt) := Prod.ext (by simp only; omega) (by simp only; omega)
    exact Or.inr (this ▸ hp)

/-- For every attribute, every schema occurrence resolves (through the entries of that attribute:
    `(attr, element)` first, then `(attr, None)`, else `str`) to a cell covered by `identity_prefix` (a converter
    below `nIdentity`) or by `cells_ok` (a member of `cellsNI`).
    Three attributes in four bind identity-shaped converters only; their occurrences need no lookup. -/
def tableCheck : Bool :=
  AttrTable.attrTable.all fun t =>
    (t.2.1.all fun e => Nat.blt e.2 AttrConv.nIdentity) || t.2.2.all fun o => cellOK (lookupIn t.2.1 o.1) o.2

theorem table_ok : tableCheck = true := by decide +kernel

theorem lookupIn_mem (ents : List (Option Nat × Nat)) (el : Nat) :
    lookupIn ents el = strIdx ∨ ∃ e ∈ ents, lookupIn ents el = e.2 := by
  unfold lookupIn
  split
  · next e he => exact Or.inr ⟨e, List.mem_of_find?_eq_some he, rfl⟩
  · split
    · next e he => exact Or.inr ⟨e, List.mem_of_find?_eq_some he, rfl⟩
    · exact Or.inl rfl

def sortedB : List Nat → Bool
  | a :: b :: r => decide (a < b) && sortedB (b :: r)
  | _ => true

/-- attribute ids are strictly increasing in the table, so the dict lookup by attribute finds its own entry -/
theorem keys_sorted : sortedB (AttrTable.attrTable.map fun t => t.1) = true := by decide +kernel

theorem sortedB_cons {a : Nat} {l : List Nat} (h : sortedB (a :: l) = true) :
    sortedB l = true ∧ ∀ x ∈ l, a < x := by
  induction l generalizing a with
  | nil => simp [sortedB]
  | cons b r ih =>
    simp only [sortedB, Bool.and_eq_true, decide_eq_true_eq] at h
    refine ⟨h.2, fun x hx => ?_⟩
    rcases List.mem_cons.mp hx with rfl | hx
    · exact h.1
    · exact Nat.lt_trans h.1 ((ih h.2).2 x hx)

theorem find_of_sorted {β : Type} (tbl : List (Nat × β)) (h : sortedB (tbl.map fun t => t.1) = true)
    (t : Nat × β) (ht : t ∈ tbl) : tbl.find? (fun g => g.1 == t.1) = some t := by
  induction tbl with
  | nil => simp at ht
  | cons x xs ih =>
    simp only [List.map_cons] at h
    simp only [List.mem_cons] at ht
    rcases ht with rfl | ht
    · simp [List.find?]
    · have hlt := (sortedB_cons h).2 t.1 (List.mem_map.mpr ⟨t, ht, rfl⟩)
      have hne : (x.1 == t.1) = false := by
        simp only [beq_eq_false_iff_ne, ne_eq]; omega
      simp only [List.find?, hne]
      exact ih (sortedB_cons h).1 ht

theorem convertIdx_of_mem (t : Nat × List (Option Nat × Nat) × List (Nat × Nat))
    (ht : t ∈ AttrTable.attrTable) (el : Nat) :
    convertIdx AttrTable.bindings t.1 el = lookupIn t.2.1 el := by
  simp only [convertIdx, AttrTable.bindings, List.find?_map, Function.comp_def,
    find_of_sorted _ keys_sorted t ht, Option.map_some]

/-- **C15 (binding_compatible)**: for every attribute occurrence `(element, attribute, datatype)` of the
    shipped schema, the converter that `AttrConverters.convert` selects for `(attribute, element)` accepts
    every lexical value of the datatype and returns it unchanged — or the (converter, datatype) cell is
    the recorded finding KF-C15-6. -/
theorem binding_compatible :
    ∀ t ∈ AttrTable.attrTable, ∀ o ∈ t.2.2,
      Compatible (kindOf (convertIdx AttrTable.bindings t.1 o.1)) (dtOf o.2) ∨
      knownCell (convertIdx AttrTable.bindings t.1 o.1, o.2) = true := by
  intro t ht o ho
  rw [convertIdx_of_mem t ht o.1]
  have hcell : lookupIn t.2.1 o.1 < AttrConv.nIdentity ∨ (lookupIn t.2.1 o.1, o.2) ∈ AttrTable.cellsNI := by
    have h := List.all_eq_true.mp table_ok t ht
    simp only [Bool.or_eq_true, List.all_eq_true, Nat.blt_eq] at h
    rcases h with h | h
    · rcases lookupIn_mem t.2.1 o.1 with hs | ⟨e, he, hs⟩
      · exact Or.inl (hs ▸ (by decide : strIdx < AttrConv.nIdentity))
      · exact Or.inl (hs ▸ h e he)
    · exact cellOK_spec (h o ho)
  rcases hcell with hlt | hmem
  · have hid := List.all_eq_true.mp identity_prefix _ (List.mem_range.mpr hlt)
    exact .inl fun s _ => isIdentity_spec hid s
  · have h := List.all_eq_true.mp cells_ok _ hmem
    rw [Bool.or_eq_true] at h
    exact h.imp (compatB_sound inclusions_proved) id

/-- the hypotheses are satisfiable and the known list is not the whole table: some occurrence lies outside it -/
example : ∃ t ∈ AttrTable.attrTable, ∃ o ∈ t.2.2,
    knownCell (convertIdx AttrTable.bindings t.1 o.1, o.2) = false := by decide +kernel

/-! ### Proved counter-examples for the recorded cells (each witness is a schema-valid value) -/

/-- KF-C15-6: an unprefixed QName -/
theorem finding_qname_unprefixed :
    cnv AttrConv.c_cnv_namespacedToken (lit "bar") = .error .valueError := by decide +kernel

end OdfModel.Props.C15
