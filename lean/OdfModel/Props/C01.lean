/-
  Property C01 — every XML stream the library emits is well-formed.

  Model: `OdfModel.Xml` (encoders + writer), `OdfModel.Ns` (process-wide namespace table); the reference parser
  `OdfModel.Spec.parseDoc` accepts only namespace-well-formed XML 1.0 (a sub-language, see Spec/XmlParse.lean).
  Tie: harness/c01.py — the three encoders on every code point, `toXml` byte for byte on generated trees, the reference
  parser against expat, the namespace table against real histories.
-/
import OdfModel.Props.C14
import OdfModel.Xml.Encodable
import OdfModel.Generated.EscapeSrc
namespace OdfModel.Props.C01
open OdfModel OdfModel.Xml OdfModel.Spec OdfModel.Ns

/-- **C01 (one rendering)**: whatever strings are used as text, CDATA and attribute values, whatever the (admissible)
    namespace table: the emitted stream is accepted by the reference parser. -/
theorem emitted_wf (tbl : NsTable) (q : QName) (attrs : List (QName × Str)) (kids : Forest)
    (ht : TableOK tbl) (hcl : NsClean tbl) (hu : TreeOK tbl (.elem q attrs kids)) :
    ∃ t, parseDoc (render tbl (.elem q attrs kids)) = some t :=
  ⟨_, parseDoc_render tbl q attrs kids ht hcl hu⟩

/-- registering a namespace makes it known to every later table -/
theorem covered_after (st : NsState) (nss : List Str) (ns : Str) (hne : ns ≠ [])
    (h : ns ∈ nss ∨ (lookupNs st.seen ns).isSome = true) : (lookupNs (run st nss).seen ns).isSome = true := by
  rw [lookupNs_isSome, mem_seen_keys_run]
  exact h.elim (fun h => .inr ⟨h, hne⟩) (fun h => .inl (lookupNs_isSome.mp h))

/-- **C01 ("whatever the process has serialised before")**: after EVERY history `nss` of namespace registrations
    (each a string of real code points without filtered characters), a tree that is admissible for the table reached
    (`TreeOK`: in particular its namespaces are registered, as `Element.__init__` and `setAttrNS` do for every name they
    are given; `covered_after`) is emitted as a stream the reference parser accepts. -/
theorem emitted_wf_after_any_history (nss : List Str) (hs : ∀ ns ∈ nss, StrOK ns ∧ ns.map hu = ns)
    (q : QName) (attrs : List (QName × Str)) (kids : Forest)
    (hu' : TreeOK (run initial nss).seen (.elem q attrs kids)) :
    ∃ t, parseDoc (render (run initial nss).seen (.elem q attrs kids)) = some t :=
  emitted_wf _ q attrs kids (C14.admissible_reachable nss hs).1 (C14.admissible_reachable nss hs).2 hu'

/-- **C01 (encodable)**: every character of an emitted stream is an XML 1.0 `Char`; in particular no lone surrogate is
    ever written, so `.encode('utf-8')` in xml()/contentxml()/save() cannot raise, whatever strings the tree holds. -/
theorem emitted_encodable (tbl : NsTable) (q : QName) (attrs : List (QName × Str)) (kids : Forest)
    (ht : TableOK tbl) (hu : TreeOK tbl (.elem q attrs kids)) :
    ∀ c ∈ render tbl (.elem q attrs kids), isXmlChar c = true ∧ ¬ (0xD800 ≤ c ∧ c ≤ 0xDFFF) := by
  intro c hc
  have h := allXml_render tbl q attrs kids ht hu c hc
  exact ⟨h, isXmlChar_not_surrogate c h⟩

/-! ### The model's constants are the constants in the source text (translator, AST route)

`Generated/EscapeSrc.lean` is rewritten on every run from the SOURCE of odf/element.py / odf/opendocument.py; these
theorems break when a literal of the encoders is edited (the behavioural route — every code point through the real
functions — then says on which character). -/
open OdfModel.Generated.EscapeSrc in
/-- `_escape` replaces `&`, `<`, `>` — in that order — by the model's `AMP`, `LT`, `GT` -/
theorem escape_src_agrees : escapeReplaces = [([38], AMP), ([60], LT), ([62], GT)] := by decide

open OdfModel.Generated.EscapeSrc in
/-- `_quoteattr` adds LF, CR, TAB (in that order) with the model's references, and replaces `"` by the model's `QUOT` -/
theorem attr_src_agrees :
    attrEntities = attrEnts.map (fun e => ([e.1], e.2)) ∧ attrReplaces = [([34], QUOT)] := by decide

open OdfModel.Generated.EscapeSrc in
/-- `Text.toXml` hands the model's `textEnts` to `_sanitize` -/
theorem text_src_agrees : textEntities = textEnts.map (fun e => ([e.1], e.2)) := by decide

open OdfModel.Generated.EscapeSrc in
/-- `CDATASection.toXml`: `]]>` is split as in `replCdataEnd`, CR is carried outside the section, the frame is `CDO … CDC` -/
theorem cdata_src_agrees :
    cdataReplaces = [(CDC, [93, 93] ++ CDC ++ CDO ++ [62]), ([13], CDC ++ R13 ++ CDO)] ∧ cdataOpen = CDO ∧ cdataClose = CDC := by
  decide

open OdfModel.Generated.EscapeSrc in
/-- `_XMLPROLOGUE` is the model's (and the reference parser's) prologue -/
theorem prologue_src_agrees : prologue = PROLOGUE := by decide

end OdfModel.Props.C01
