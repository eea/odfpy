/-
  OdfModel.DomDoc — the node tree of OdfModel.Dom together with ONE document: `ownerDocument` of every element and the
  document's two indexes `element_dict` and `_styles_dict` (property C09, `__replaceGenerator` included, which `xml()`,
  `metaxml()` and `save()` run), as odf/element.py and odf/opendocument.py have them at commits 0015fcf, 437b145, b44089a.
  The definitions of the calls name the Python statements they model (`__register_stylename` exactly, with its rename to
  'M'+name on a clash with a valid entry); the add* wrappers are as in Dom; `clear_caches()` as a public call is not part
  of the histories of C09 and not modelled.
-/
import OdfModel.Dom
namespace OdfModel.DomDoc
open OdfModel.Dom
-- `Id` is the node id: without this alias every `Id` in this namespace is ambiguous with the identity monad `_root_.Id`,
-- and each declaration is elaborated once per reading
export OdfModel.Dom (Id)

abbrev DocId := Nat

/-! Names, qnames and attribute keys are tokens.  Fixed tokens: qname 1 = style:style, 2 = office:styles,
    3 = office:automatic-styles, 4 = meta:generator; attribute key 1 = style:name, 2 = text:style-name;
    `mName n = n + 1000` is the token of 'M' + (name of token n). -/

def QN_STYLE : Nat := 1
def QN_STYLES : Nat := 2
def QN_AUTOSTYLES : Nat := 3
def QN_GENERATOR : Nat := 4
def KEY_STYLE_NAME : Nat := 1
def KEY_TEXT_STYLE_NAME : Nat := 2
/-- token of `u'M' + name` -/
def mName (n : Nat) : Nat := n + 1000
/-- depth budget of the recursive traversals: a subtree of more than 400 element levels makes the model raise
    RecursionError.  CPython's default limit is 1000 frames and each traversal spends one frame per level, so the model
    gives up earlier than Python; the theorems of C09 exclude the model's RecursionError and so say nothing about
    subtrees deeper than 400. -/
def FUEL : Nat := 400

/-- `owned x` = "x.ownerDocument is the document" (false = None); only elements carry it -/
structure DState where
  heap : Heap
  ownedL : List (Id × Bool)              -- ownerDocument assignments, latest first
  top : Id                               -- doc.topnode
  edict : List (Nat × List Id)           -- element_dict: qname ↦ elements, in dict order
  sdict : List (Nat × Id)                -- _styles_dict: name ↦ style element
  fix : List (Nat × Nat)                 -- _styles_ooo_fix: old name ↦ new name

def DState.owned (s : DState) (x : Id) : Bool :=
  match s.ownedL.lookup x with
  | some b => b
  | none => false

/-- `ownerDocument` as the property speaks of it -/
def DState.owner (s : DState) (x : Id) : Option DocId := if s.owned x then some 0 else none

def DState.init : DState :=
  { heap := Heap.empty, ownedL := [], top := 0, edict := [], sdict := [], fix := [] }

/-! ### dictionaries as association lists -/

/-- `element_dict.get(q, [])` -/
def edGet : List (Nat × List Id) → Nat → List Id
  | [], _ => []
  | (k, v) :: r, q => if k = q then v else edGet r q

/-- `element_dict[q] = v` -/
def edSet : List (Nat × List Id) → Nat → List Id → List (Nat × List Id)
  | [], q, v => [(q, v)]
  | (k, w) :: r, q, v => if k = q then (k, v) :: r else (k, w) :: edSet r q v

/-- `_styles_dict.get(n)` -/
def sdGet : List (Nat × Id) → Nat → Option Id
  | [], _ => none
  | (k, v) :: r, n => if k = n then some v else sdGet r n

/-- `_styles_dict[n] = v` -/
def sdSet : List (Nat × Id) → Nat → Id → List (Nat × Id)
  | [], n, v => [(n, v)]
  | (k, w) :: r, n, v => if k = n then (k, v) :: r else (k, w) :: sdSet r n v

/-- `del _styles_dict[n]` -/
def sdDel : List (Nat × Id) → Nat → List (Nat × Id)
  | [], _ => []
  | (k, w) :: r, n => if k = n then r else (k, w) :: sdDel r n

theorem edGet_edSet (d : List (Nat × List Id)) (q q' : Nat) (v : List Id) :
    edGet (edSet d q v) q' = if q' = q then v else edGet d q' := by
  induction d with
  | nil => simp only [edSet, edGet, eq_comm]
  | cons a r ih =>
    simp only [edSet]
    split
    · rename_i hk; simp only [edGet, hk, eq_comm]; split <;> rfl
    · rename_i hk; simp only [edGet, ih]
      split
      · rename_i h2; rw [if_neg (fun e => hk (h2.trans e))]
      · rfl

theorem mem_sdDel {d : List (Nat × Id)} {n : Nat} {p : Nat × Id} (h : p ∈ sdDel d n) : p ∈ d := by
  induction d with
  | nil => exact h
  | cons c r ih =>
    simp only [sdDel] at h
    split at h
    · exact List.mem_cons_of_mem _ h
    · exact (List.mem_cons.mp h).elim (fun e => e ▸ List.mem_cons_self) (fun h => List.mem_cons_of_mem _ (ih h))

theorem mem_sdSet {d : List (Nat × Id)} {n : Nat} {v : Id} {p : Nat × Id} (h : p ∈ sdSet d n v) :
    p ∈ d ∨ p = (n, v) := by
  induction d with
  | nil => exact Or.inr (List.mem_singleton.mp h)
  | cons c r ih =>
    simp only [sdSet] at h
    split at h
    · rename_i hk
      rcases List.mem_cons.mp h with e | h
      · exact Or.inr (hk ▸ e)
      · exact Or.inl (List.mem_cons_of_mem _ h)
    · rcases List.mem_cons.mp h with e | h
      · exact Or.inl (e ▸ List.mem_cons_self)
      · exact (ih h).imp (List.mem_cons_of_mem _) id

theorem sdGet_mem {d : List (Nat × Id)} {n : Nat} {e : Id} (h : sdGet d n = some e) : (n, e) ∈ d := by
  induction d with
  | nil => cases h
  | cons c r ih =>
    simp only [sdGet] at h
    split at h
    · rename_i hk; cases h; exact hk ▸ List.mem_cons_self
    · exact List.mem_cons_of_mem _ (ih h)

/-! ### the recursions over a subtree, with a depth budget

  The three Python recursions (`_set_owner`, `rebuild_caches(node)`, `remove_from_caches`) walk the subtree in pre-order
  and never change a child list, so each is modelled as: compute the pre-order list of the element nodes of the subtree
  (`elems`, with a depth budget `FUEL`), then run the per-node statement over that list.  (remove_from_caches drops the
  style entry of a node after its children instead of before; the entries are removed by identity, so the order is
  immaterial.)  A subtree deeper than the budget makes the model raise `RecursionError` before the traversal's own
  assignments — Python raises it too (later, half-way); the theorems of C09 speak about calls that do not raise it. -/

/-- the visits of a list of siblings, one after the other (`for child in node.childNodes: …`); the visit of one child is
    the parameter `rec`, so that `elems` below is a structural recursion on the budget and needs no mutual block -/
def elemsStep (rec : Id → Option (List Id)) : List Id → Option (List Id)
  | [] => some []
  | k :: r =>
    match rec k, elemsStep rec r with
    | some a, some b => some (a ++ b)
    | _, _ => none

/-- the ELEMENT nodes below and including `n`, in document order, as all three recursions
    (`_set_owner`, `rebuild_caches`, `remove_from_caches`) visit them: a non-element node is not
    entered; `none` when the subtree is deeper than the budget (RecursionError) -/
def elems (h : Heap) : Nat → Id → Option (List Id)
  | 0, n => if (h n).kind = .elem then none else some []
  | f + 1, n =>
    if (h n).kind = .elem then (elemsStep (fun k => elems h f k) (h n).kids).map (fun l => n :: l) else some []

/-- the element nodes below a list of siblings -/
def elemsL (h : Heap) (f : Nat) (ks : List Id) : Option (List Id) := elemsStep (fun k => elems h f k) ks

def elemsUnder (h : Heap) (n : Id) : Option (List Id) := elems h FUEL n

mutual
/-- `Element._getElementsByObj(obj, accumulator)`: `q` is `obj.qname` -/
def getByObj (h : Heap) (q : Nat) : Nat → Id → List Id → Option (List Id)
  | 0, _, _ => none
  | f + 1, n, acc =>
    getByObjL h q f (h n).kids (if (h n).qn = q then acc ++ [n] else acc)   -- if self.qname == obj.qname: accumulator.append(self)
def getByObjL (h : Heap) (q : Nat) : Nat → List Id → List Id → Option (List Id)
  | _, [], acc => some acc
  | f, k :: r, acc =>                                                       -- for e in self.childNodes:
    if (h k).kind = .elem then                                              --   if e.nodeType == ELEMENT_NODE:
      match getByObj h q f k acc with                                       --     accumulator = e._getElementsByObj(obj, accumulator)
      | some acc' => getByObjL h q f r acc'
      | none => none
    else getByObjL h q f r acc
end

/-- `Element.getElementsByType(factory)` -/
def elByType (h : Heap) (n : Id) (q : Nat) : Option (List Id) := getByObj h q FUEL n []

/-! ### the monad over document states -/

def DM (α : Type) : Type := DState → DState × Except Err α

namespace DM
protected def pure {α} (a : α) : DM α := fun s => (s, .ok a)
protected def bind {α β} (x : DM α) (f : α → DM β) : DM β := fun s =>
  match x s with
  | (s', .ok a) => f a s'
  | (s', .error e) => (s', .error e)
instance : Monad DM where
  pure := DM.pure
  bind := DM.bind
def run {α} (x : DM α) (s : DState) : DState × Except Err α := x s
end DM

def raiseD {α} (e : Err) : DM α := fun s => (s, .error e)
def rdD {α} (f : DState → α) : DM α := fun s => (s, .ok (f s))
def updD (f : DState → DState) : DM Unit := fun s => (f s, .ok ())
/-- a statement sequence of the tree layer, run on the heap of the document state -/
def liftH {α} (m : M α) : DM α := fun s =>
  match m.run s.heap with
  | (h', r) => ({ s with heap := h' }, r)

@[simp] theorem run_pure {α} (a : α) (s : DState) : (pure a : DM α).run s = (s, .ok a) := rfl
@[simp] theorem run_raise {α} (e : Err) (s : DState) : (raiseD e : DM α).run s = (s, .error e) := rfl
@[simp] theorem run_rd {α} (f : DState → α) (s : DState) : (rdD f).run s = (s, .ok (f s)) := rfl
@[simp] theorem run_upd (f : DState → DState) (s : DState) : (updD f).run s = (f s, .ok ()) := rfl
theorem run_bind {α β} (x : DM α) (f : α → DM β) (s : DState) :
    (x >>= f).run s = match x.run s with
      | (s', .ok a) => (f a).run s'
      | (s', .error e) => (s', .error e) := rfl
@[simp] theorem run_bind_pure {α β} (a : α) (f : α → DM β) (s : DState) :
    ((pure a : DM α) >>= f).run s = (f a).run s := rfl
@[simp] theorem run_bind_raise {α β} (e : Err) (f : α → DM β) (s : DState) :
    ((raiseD e : DM α) >>= f).run s = (s, .error e) := rfl
@[simp] theorem run_bind_rd {α β} (g : DState → α) (f : α → DM β) (s : DState) :
    (rdD g >>= f).run s = (f (g s)).run s := rfl
@[simp] theorem run_bind_upd {β} (g : DState → DState) (f : Unit → DM β) (s : DState) :
    (updD g >>= f).run s = (f ()).run (g s) := rfl
@[simp] theorem run_ite {α} (c : Prop) [Decidable c] (x y : DM α) (s : DState) :
    (if c then x else y).run s = if c then x.run s else y.run s := by split <;> rfl
@[simp] theorem run_bind_ite {α β} (c : Prop) [Decidable c] (x y : DM α) (f : α → DM β) (s : DState) :
    ((if c then x else y) >>= f).run s = if c then (x >>= f).run s else (y >>= f).run s := by
  split <;> rfl
theorem run_liftH {α} (m : M α) (s : DState) :
    (liftH m).run s = ({ s with heap := (m.run s.heap).1 }, (m.run s.heap).2) := rfl

def forEach (f : Id → DM Unit) : List Id → DM Unit
  | [] => pure ()
  | x :: r => do f x; forEach f r

/-- the element nodes of the subtree of `n`, or RecursionError -/
def walkResult (s : DState) (n : Id) : DState × Except Err (List Id) :=
  match elemsUnder s.heap n with
  | some l => (s, .ok l)
  | none => (s, .error .RecursionError)

def walk (n : Id) : DM (List Id) := fun s => walkResult s n

/-! ### _set_owner -/

def setOwned (s : DState) (x : Id) (v : Bool) : DState :=
  { s with ownedL := (x, v) :: s.ownedL }

theorem owned_setOwned (s : DState) (x y : Id) (v : Bool) :
    (setOwned s x v).owned y = if y = x then v else s.owned y := by
  simp only [setOwned, DState.owned, List.lookup]
  by_cases h : y = x
  · subst h; simp
  · have : (y == x) = false := by simp [h]
    simp [this, h]

/-- `_set_owner(n, doc)`: `if node.nodeType == ELEMENT_NODE: node.ownerDocument = doc; for child …` -/
def setOwnerRec (n : Id) (v : Bool) : DM Unit := do
  let l ← walk n
  forEach (fun x => updD fun s => setOwned s x v) l

/-! ### build_caches / __register_stylename -/

/-- the parent is office:styles or office:automatic-styles -/
def underStyles (s : DState) (e : Id) : Bool :=
  match (s.heap e).parent with
  | some pp => decide ((s.heap pp).qn = QN_STYLES ∨ (s.heap pp).qn = QN_AUTOSTYLES)
  | none => false

/-- `__registered_style(name)`: the style registered under `name`, provided it is still in the
    document, still bears that name and still hangs under office:styles / office:automatic-styles;
    a stale entry is deleted -/
def registeredStyle (name : Nat) : DM (Option Id) := fun s =>
  match sdGet s.sdict name with                                             -- s = self._styles_dict.get(name)
  | none => (s, .ok none)
  | some x =>
    if s.owned x && (lookupAttr KEY_STYLE_NAME (s.heap x).attrs == some name) && underStyles s x then
      (s, .ok (some x))
    else                                                                    -- not owned / other name / parent not a style section:
      ({ s with sdict := sdDel s.sdict name }, .ok none)                    --   del self._styles_dict[name]; s = None

/-- `__register_stylename(elt)`.  (`elt.parentNode.qname` of a parentless node would be an
    AttributeError in Python; build_caches is only ever called on nodes below an attached parent, or
    on the top node, which is not a style:style — the model simply does nothing there.) -/
def registerStyle (x : Id) : DM Unit := do
  match (← rdD fun s => lookupAttr KEY_STYLE_NAME (s.heap x).attrs) with   -- name = elt.getAttrNS(STYLENS, 'name')
  | none => pure ()                                                         -- if name is None: return
  | some name =>
    match (← rdD fun s => (s.heap x).parent) with
    | none => pure ()
    | some pp =>
      let pq ← rdD fun s => (s.heap pp).qn
      if pq = QN_STYLES ∨ pq = QN_AUTOSTYLES then                           -- parent is office:styles / automatic-styles
        let cur ← registeredStyle name
        if cur ≠ none ∧ cur ≠ some x then                                   -- if self.__registered_style(name) not in (None, elt):
          updD fun s => { s with fix := storeAttr name (mName name) s.fix } --   _styles_ooo_fix[name] = 'M'+name
          updD fun s => { s with heap := setAttrs s.heap x (storeAttr KEY_STYLE_NAME (mName name) (s.heap x).attrs) }
                                                                            --   elt.setAttrNS(STYLENS, 'name', newname)
          updD fun s => { s with sdict := sdSet s.sdict (mName name) x }    --   _styles_dict[newname] = elt  (may replace an entry)
        else
          updD fun s => { s with sdict := sdSet s.sdict name x }            -- _styles_dict[name] = elt

/-- `element_dict[qname].append(elt)` (creating the list when the qname is new) -/
def edAppend (x : Id) (s : DState) : DState :=
  { s with edict := edSet s.edict (s.heap x).qn (edGet s.edict (s.heap x).qn ++ [x]) }

/-- `styleref = elt.getAttrNS(TEXTNS, 'style-name'); if styleref in _styles_ooo_fix: elt.setAttrNS(…)` -/
def fixStyleRef (x : Id) : DM Unit := do
  match (← rdD fun s => lookupAttr KEY_TEXT_STYLE_NAME (s.heap x).attrs) with
  | none => pure ()
  | some r =>
    match (← rdD fun s => lookupAttr r s.fix) with
    | none => pure ()
    | some nw => updD fun s => { s with heap := setAttrs s.heap x (storeAttr KEY_TEXT_STYLE_NAME nw (s.heap x).attrs) }

/-- `if elt.qname == (STYLENS, 'style'): self.__register_stylename(elt)` -/
def registerIfStyle (x : Id) : DM Unit := do
  if (← rdD fun s => (s.heap x).qn) = QN_STYLE then registerStyle x

/-- `build_caches(elt)` -/
def buildCaches (x : Id) : DM Unit := do
  updD (edAppend x)                                                          -- element_dict[qname].append(elt)
  registerIfStyle x
  fixStyleRef x

/-- `rebuild_caches(node)` for a given node -/
def rebuildCaches (n : Id) : DM Unit := do
  let l ← walk n
  forEach buildCaches l

/-- `rebuild_caches()` from the top: empty indexes first (b44089a) -/
def rebuildAll : DM Unit := do
  updD fun s => { s with edict := [], sdict := [] }
  rebuildCaches (← rdD fun s => s.top)

/-! ### remove_from_caches -/

/-- `if elt in element_dict.get(qname, ()): element_dict[qname].remove(elt)` -/
def edDrop (x : Id) (s : DState) : DState :=
  if x ∈ edGet s.edict (s.heap x).qn then
    { s with edict := edSet s.edict (s.heap x).qn ((edGet s.edict (s.heap x).qn).erase x) }
  else s

/-- `if elt.qname == style:style: name = …; if _styles_dict.get(name) is elt: del _styles_dict[name]` -/
def dropStyleEntry (x : Id) : DM Unit := do
  if (← rdD fun s => (s.heap x).qn) = QN_STYLE then
    match (← rdD fun s => lookupAttr KEY_STYLE_NAME (s.heap x).attrs) with
    | none => pure ()                                                        -- _styles_dict.get(None) is elt: never
    | some name =>
      if (← rdD fun s => sdGet s.sdict name) = some x then
        updD fun s => { s with sdict := sdDel s.sdict name }

/-- `remove_from_caches` for one element -/
def removeOne (x : Id) : DM Unit := do
  updD (edDrop x)
  dropStyleEntry x

/-- `remove_from_caches(node)` -/
def removeFromCaches (n : Id) : DM Unit := do
  let l ← walk n
  forEach removeOne l

/-! ### the three mutators -/

/-- the five link assignments of removeChild (child list, the two neighbours, the node's own sibling links) -/
def unlink (p c : Id) : M Unit := do
  upd fun h => setKids h p ((h p).kids.erase c)
  upd fun h => setPrevOpt h (h c).next (h c).prev
  upd fun h => setNextOpt h (h c).prev (h c).next
  upd fun h => setNext h c none
  upd fun h => setPrev h c none

/-- `if self.ownerDocument and oldChild is an element: ….remove_from_caches(oldChild)`, then
    `_set_owner(oldChild, None)` -/
def dropFromIndexes (p c : Id) : DM Unit := do
  if (← rdD fun s => s.owned p && decide ((s.heap c).kind = .elem)) then
    removeFromCaches c
  setOwnerRec c false

/-- `p.removeChild(c)` -/
def removeChild (p c : Id) : DM Unit := do
  if (← rdD fun s => (s.heap p).kind) ≠ .elem then
    raiseD .NotFound                                                         -- Childless.removeChild
  if !(← rdD fun s => decide (c ∈ (s.heap p).kids)) then
    raiseD .NotFound
  liftH (unlink p c)
  dropFromIndexes p c
  liftH (upd fun h => setParent h c none)                                    -- oldChild.parentNode = None

/-- `if c.parentNode is not None: c.parentNode.removeChild(c)` -/
def detachIfAttached (c : Id) : DM Unit := do
  match (← rdD fun s => (s.heap c).parent) with
  | some q => removeChild q c
  | none => pure ()

/-- `p._child_attached(c)` -/
def childAttached (p c : Id) : DM Unit := do
  let doc ← rdD fun s => s.owned p                                           -- doc = getattr(self, 'ownerDocument', None)
  setOwnerRec c doc                                                          -- _set_owner(newChild, doc)
  if doc && (← rdD fun s => decide ((s.heap c).kind = .elem)) then           -- if doc and newChild is an element:
    rebuildCaches c                                                          --   doc.rebuild_caches(newChild)

/-- `p.appendChild(c)` -/
def appendChild (p c : Id) : DM Unit := do
  if (← rdD fun s => (s.heap p).kind) ≠ .elem then
    raiseD .Hierarchy
  detachIfAttached c
  liftH (appendRaw p c)
  liftH (upd fun h => setNext h c none)
  childAttached p c

/-- `p.insertBefore(n, ref)` -/
def insertBefore (p n : Id) (ref : Option Id) : DM Unit := do
  if (← rdD fun s => (s.heap p).kind) ≠ .elem then
    raiseD .Hierarchy
  liftH (checkRef p ref)
  if ref = some n then
    pure ()
  else
    detachIfAttached n
    match ref with
    | none => appendChild p n
    | some r => do
      liftH (insertAtRef p n r)
      childAttached p n

def addElement (p c : Id) (allowed : Bool) : DM Unit := do
  if !allowed then raiseD .IllegalChild
  appendChild p c

def addText (p t : Id) (allowsText nonempty : Bool) : DM Unit := do
  if !allowsText then raiseD .IllegalText
  if nonempty then
    liftH (initNode t .text 0)
    appendChild p t

def addCDATA (p t : Id) (allowsText : Bool) : DM Unit := do
  if !allowsText then raiseD .IllegalText
  liftH (initNode t .cdata 0)
  appendChild p t

/-! ### methods of `OpenDocument` -/

/-- `OpenDocument.__init__` up to `clear_caches()`: `t` is the (already created) topnode -/
def mkDoc (t : Id) : DM Unit :=
  updD fun s => { setOwned s t true with top := t, edict := [], sdict := [], fix := [] }

/-- `doc.getElementsByType(factory)` -/
def docByType (q : Nat) : DM (List Id) := do
  if (← rdD fun s => s.edict.isEmpty) then rebuildAll                        -- if self.element_dict == {}: self.rebuild_caches()
  rdD fun s => edGet s.edict q

/-- the `for e in self.element_dict.get(style:style, [])` loop of getStyleByName: the first element of
    that name whose parent is office:styles / office:automatic-styles -/
def scanStyles (s : DState) (n : Nat) : List Id → Option Id
  | [] => none
  | e :: r =>
    if decide (lookupAttr KEY_STYLE_NAME (s.heap e).attrs = some n) && underStyles s e then some e
    else scanStyles s n r

/-- `doc.getStyleByName(name)`; `n` is the token of `make_NCName(name)` -/
def styleByName (n : Nat) : DM (Option Id) := do
  if (← rdD fun s => s.sdict.isEmpty) then rebuildAll                        -- if self._styles_dict == {}: self.rebuild_caches()
  match (← registeredStyle n) with                                           -- result = self.__registered_style(ncname)
  | some e => pure (some e)
  | none =>                                                                  -- if result is None: for e in element_dict.get(style, []): …
    match (← rdD fun s => scanStyles s n (edGet s.edict QN_STYLE)) with
    | some e => do
      updD fun s => { s with sdict := sdSet s.sdict n e }                    --   self._styles_dict[ncname] = result = e; break
      pure (some e)
    | none => pure none

/-- `__replaceGenerator()`: `g`, `t` are the ids of the new generator element and its Text node -/
def replaceGenerator (mt g t : Id) : DM Unit := do
  let ms ← rdD fun s => (s.heap mt).kids                                   -- for m in self.meta.childNodes[:]:
  forEach (fun m => do
    if (← rdD fun s => decide ((s.heap m).kind = .elem) && decide ((s.heap m).qn = QN_GENERATOR)) then
      removeChild mt m) ms
  liftH (initNode g .elem QN_GENERATOR)                                      -- meta.Generator(text=TOOLSVERSION)
  addText g t true true
  addElement mt g true                                                     -- self.meta.addElement(…)

/-! An edit history is a list of `DOp`; each operation runs on the state its predecessor left, whether that one succeeded
    or raised (as `Dom.runOps`).  `mkDoc` occurs only at the start (`C09.freshDoc`). -/

inductive DOp where
  | tree (op : Op)                         -- creation, the three mutators, the add* wrappers, attribute calls
  | mkDoc (t : Id)
  | byType (q : Nat)
  | styleByName (n : Nat)
  | replaceGenerator (mt g t : Id)

def stepD : DOp → DM Unit
  | .tree (.newNode i k qn) => liftH (step (.newNode i k qn))
  | .tree (.append p c) => appendChild p c
  | .tree (.insertBefore p n ref) => insertBefore p n ref
  | .tree (.remove p c) => removeChild p c
  | .tree (.addElement p c a) => addElement p c a
  | .tree (.addText p t a ne) => do liftH (fresh t); addText p t a ne
  | .tree (.addCDATA p t a) => do liftH (fresh t); addCDATA p t a
  | .tree (.setAttribute e k t a key conv) => liftH (setAttribute e k t a key conv)
  | .tree (.setAttrNS e key conv) => liftH (setAttrNS e key conv)
  | .tree (.removeAttribute e k t a key) => liftH (removeAttribute e k t a key)
  | .mkDoc t => mkDoc t
  | .byType q => do let _ ← docByType q; pure ()
  | .styleByName n => do let _ ← styleByName n; pure ()
  | .replaceGenerator m g t => do liftH (fresh g); liftH (fresh t); replaceGenerator m g t

def runD (s : DState) : List DOp → DState
  | [] => s
  | op :: r => runD ((stepD op).run s).1 r

end OdfModel.DomDoc
