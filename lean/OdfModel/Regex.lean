/-
  OdfModel.Regex — regular expressions over code points with a Brzozowski-derivative
  matcher (specification side of property C15; also used by C20).

  `RE` is the syntax the translator `harness/translate_attr.py` produces from
    * every `pattern_* = re.compile(...)` of odf/attrconverters.py, and
    * every `<param name="pattern">` of the shipped RELAX-NG schema.
  `accepts r s` is *full match* (`s ∈ L(r)`): it consumes the string one code point at a
  time by derivatives, so it is total and structural on the string.

  How Python's `re` is used by the code is a separate `Mode`:
    `pattern.match(s)` with a pattern ending in `\Z`, or `fullmatch`  -> `Mode.full`
    `pattern.match(s)` without end anchor                             -> `Mode.pref`  (some prefix)
    `pattern.match(s)` with a pattern ending in `$`                   -> `Mode.dollar` (full, or full before a final LF)
    `pattern.search(s)`                                               -> `Mode.search` (some infix)
  Python's matcher backtracks over every alternative, so for this operator subset
  "`match` succeeds with `\Z` at the end" is exactly "`s ∈ L(r)`".

  Second half: a *checked* language-inclusion test `inclB a b` (simulation closed under
  derivatives for one representative code point per cell of the partition induced by all
  class bounds), with `inclB_sound : inclB a b = true → ∀ s, accepts a s → accepts b s`.
-/
import OdfModel.Basic
namespace OdfModel.Regex
open OdfModel

inductive RE where
  | nothing                                   -- ∅
  | eps                                       -- ""
  | cls (neg : Bool) (rs : List (Nat × Nat))  -- [a-bc-d] / [^a-bc-d]; a single char is cls false [(c,c)]
  | seq (a b : RE)
  | alt (a b : RE)
  | star (a : RE)
deriving DecidableEq, Repr

namespace RE
/-- a single code point -/
def chr (c : Nat) : RE := cls false [(c, c)]
/-- `a+` -/
def plus (a : RE) : RE := seq a (star a)
/-- `a?` -/
def opt (a : RE) : RE := alt eps a
/-- `a{0,n}` -/
def repOpt : Nat → RE → RE
  | 0, _ => eps
  | n+1, a => opt (seq a (repOpt n a))
/-- `a{m,n}` (for `m ≤ n`) -/
def rep : Nat → Nat → RE → RE
  | 0, n, a => repOpt n a
  | m+1, n, a => seq a (rep m (n-1) a)
/-- `a{m,}` -/
def repMin (m : Nat) (a : RE) : RE := seq (rep m m a) (star a)
/-- every code point, LF included (the negated empty class) -/
def anyChar : RE := cls true []
end RE

def inRanges (c : Nat) : List (Nat × Nat) → Bool
  | [] => false
  | (lo, hi) :: r => (decide (lo ≤ c) && decide (c ≤ hi)) || inRanges c r

def nullable : RE → Bool
  | .nothing => false
  | .eps => true
  | .cls _ _ => false
  | .seq a b => nullable a && nullable b
  | .alt a b => nullable a || nullable b
  | .star _ => true

def deriv (c : Nat) : RE → RE
  | .nothing => .nothing
  | .eps => .nothing
  | .cls neg rs => if (inRanges c rs != neg) then .eps else .nothing
  | .seq a b => if nullable a then .alt (.seq (deriv c a) b) (deriv c b) else .seq (deriv c a) b
  | .alt a b => .alt (deriv c a) (deriv c b)
  | .star a => .seq (deriv c a) (.star a)

/-- full match: `s ∈ L(r)` -/
def accepts : RE → Str → Bool
  | r, [] => nullable r
  | r, c :: s => accepts (deriv c r) s

/-- `re.match` without end anchor: some prefix of `s` is in `L(r)` -/
def acceptsPrefix : RE → Str → Bool
  | r, [] => nullable r
  | r, c :: s => nullable r || acceptsPrefix (deriv c r) s

/-- `re.search`: some infix of `s` is in `L(r)` -/
def acceptsSearch : RE → Str → Bool
  | r, [] => nullable r
  | r, c :: s => acceptsPrefix r (c :: s) || acceptsSearch r s

inductive Mode where
  | full | pref | dollar | search
deriving DecidableEq, Repr

def dropLastLF (s : Str) : Option Str :=
  match s.reverse with
  | 10 :: r => some r.reverse
  | _ => none

def matchMode (m : Mode) (r : RE) (s : Str) : Bool :=
  match m with
  | .full => accepts r s
  | .pref => acceptsPrefix r s
  | .dollar => accepts r s || (match dropLastLF s with | some t => accepts r t | none => false)
  | .search => acceptsSearch r s

/-! ### Semantics of the matcher, constructor by constructor -/

@[simp] theorem accepts_nil (r : RE) : accepts r [] = nullable r := rfl
@[simp] theorem accepts_cons (r : RE) (c : Nat) (s : Str) : accepts r (c :: s) = accepts (deriv c r) s := rfl

theorem accepts_nothing (s : Str) : accepts .nothing s = false := by
  induction s with
  | nil => simp [nullable]
  | cons c t ih => simpa [deriv] using ih

theorem accepts_eps (s : Str) : accepts .eps s = s.isEmpty := by
  cases s with
  | nil => simp [nullable]
  | cons c t => simp [deriv, accepts_nothing]

theorem accepts_cls (neg : Bool) (rs : List (Nat × Nat)) (s : Str) :
    accepts (.cls neg rs) s = true ↔ ∃ c, s = [c] ∧ (inRanges c rs != neg) = true := by
  cases s with
  | nil => simp [nullable]
  | cons c t =>
    by_cases h : inRanges c rs = neg <;>
      simp [deriv, h, accepts_eps, accepts_nothing, and_assoc, eq_comm (a := c)]

theorem accepts_alt (a b : RE) (s : Str) :
    accepts (.alt a b) s = (accepts a s || accepts b s) := by
  induction s generalizing a b with
  | nil => simp [nullable]
  | cons c t ih => simp [deriv, ih]

theorem exists_cons_eq_append {c : Nat} {t : Str} {P : Str → Str → Prop} :
    (∃ s1 s2, c :: t = s1 ++ s2 ∧ P s1 s2) ↔ P [] (c :: t) ∨ ∃ t1 s2, t = t1 ++ s2 ∧ P (c :: t1) s2 := by
  constructor
  · rintro ⟨s1, s2, h, hp⟩
    rcases List.cons_eq_append_iff.mp h with ⟨rfl, rfl⟩ | ⟨t1, rfl, rfl⟩
    · exact .inl hp
    · exact .inr ⟨t1, s2, rfl, hp⟩
  · rintro (hp | ⟨t1, s2, rfl, hp⟩)
    · exact ⟨[], _, rfl, hp⟩
    · exact ⟨c :: t1, s2, rfl, hp⟩

theorem accepts_seq (a b : RE) (s : Str) :
    accepts (.seq a b) s = true ↔ ∃ s1 s2, s = s1 ++ s2 ∧ accepts a s1 = true ∧ accepts b s2 = true := by
  induction s generalizing a with
  | nil => simp [nullable, and_assoc]
  | cons c t ih =>
    rw [exists_cons_eq_append]
    cases hn : nullable a <;> simp [deriv, hn, accepts_alt, ih, or_comm]

/-- `accepts (seq a b) (s ++ t)` from its parts -/
theorem accepts_seq_append {a b : RE} {s t : Str} (h1 : accepts a s = true) (h2 : accepts b t = true) :
    accepts (.seq a b) (s ++ t) = true :=
  (accepts_seq a b (s ++ t)).mpr ⟨s, t, rfl, h1, h2⟩

theorem accepts_star (a : RE) (s : Str) :
    accepts (.star a) s = true ↔
      s = [] ∨ ∃ s1 s2, s1 ≠ [] ∧ s = s1 ++ s2 ∧ accepts a s1 = true ∧ accepts (.star a) s2 = true := by
  cases s with
  | nil => exact ⟨fun _ => .inl rfl, fun _ => rfl⟩
  | cons c t =>
    -- one derivative step turns `star a` into `seq (deriv c a) (star a)`; split that with `accepts_seq`:
    -- the first piece of `c :: t` starts with `c`, so it is not empty
    simp only [and_left_comm (a := _ ≠ _), exists_cons_eq_append, accepts_cons, deriv, accepts_seq]
    simp

theorem acceptsPrefix_iff (r : RE) (s : Str) :
    acceptsPrefix r s = true ↔ ∃ p t, s = p ++ t ∧ accepts r p = true := by
  induction s generalizing r with
  | nil => simp [acceptsPrefix]
  | cons c u ih =>
    simp only [exists_cons_eq_append, acceptsPrefix, Bool.or_eq_true, ih, accepts_nil, accepts_cons]

/-- a full match is in particular a prefix match -/
theorem accepts_imp_prefix {r : RE} {s : Str} (h : accepts r s = true) : acceptsPrefix r s = true :=
  (acceptsPrefix_iff r s).mpr ⟨s, [], by simp, h⟩

/-! ### Language equivalence and a light normaliser (keeps derivative sets finite) -/

def Equiv (a b : RE) : Prop := ∀ s, accepts a s = accepts b s

theorem seq_congr_left {a a' : RE} (b : RE) (h : Equiv a a') : Equiv (.seq a b) (.seq a' b) := by
  intro s
  apply Bool.eq_iff_iff.mpr
  simp only [accepts_seq, h _]

def mkSeq : RE → RE → RE
  | .nothing, _ => .nothing
  | .eps, b => b
  | a, b => .seq a b

theorem mkSeq_equiv (a b : RE) : Equiv (mkSeq a b) (.seq a b) := by
  intro s
  apply Bool.eq_iff_iff.mpr
  cases a with
  | nothing => simp [mkSeq, accepts_seq, accepts_nothing]
  | eps => simp [mkSeq, accepts_seq, accepts_eps, and_left_comm (b := _ = [])]
  | _ => rfl

/-- the alternatives of a regex, `nothing` dropped -/
def flat : RE → List RE
  | .alt a b => flat a ++ flat b
  | .nothing => []
  | r => [r]

theorem accepts_flat (r : RE) (s : Str) : accepts r s = (flat r).any (fun x => accepts x s) := by
  fun_induction flat r <;> simp [accepts_alt, accepts_nothing, *]

def mkAlts : List RE → RE
  | [] => .nothing
  | [x] => x
  | x :: y :: r => .alt x (mkAlts (y :: r))

theorem accepts_mkAlts (l : List RE) (s : Str) : accepts (mkAlts l) s = l.any (fun x => accepts x s) := by
  fun_induction mkAlts l <;> simp [accepts_nothing, accepts_alt, *]

def dedup : List RE → List RE
  | [] => []
  | x :: xs => if xs.contains x then dedup xs else x :: dedup xs

theorem mem_dedup (l : List RE) (x : RE) : x ∈ dedup l ↔ x ∈ l := by
  fun_induction dedup l <;> simp_all

theorem any_dedup (l : List RE) (p : RE → Bool) : (dedup l).any p = l.any p := by
  apply Bool.eq_iff_iff.mpr
  simp only [List.any_eq_true, mem_dedup]

/-- simplify along the spine that derivatives rebuild (left of `seq`, both sides of `alt`) -/
def norm : RE → RE
  | .seq a b => mkSeq (norm a) b
  | .alt a b => mkAlts (dedup (flat (norm a) ++ flat (norm b)))
  | r => r

theorem norm_equiv (r : RE) : Equiv (norm r) r := by
  induction r with
  | seq a b iha _ =>
    intro s
    simp only [norm]
    rw [mkSeq_equiv, seq_congr_left b iha]
  | alt a b iha ihb =>
    intro s
    simp only [norm, accepts_mkAlts, any_dedup, List.any_append, accepts_alt]
    rw [← accepts_flat, ← accepts_flat, iha s, ihb s]
  | _ => intro s; simp [norm]

/-- matcher that simplifies after every step (what the compiled driver runs) -/
def acceptsN : RE → Str → Bool
  | r, [] => nullable r
  | r, c :: s => acceptsN (norm (deriv c r)) s

theorem acceptsN_eq (r : RE) (s : Str) : acceptsN r s = accepts r s := by
  induction s generalizing r with
  | nil => simp [acceptsN]
  | cons c t ih => simp only [acceptsN, accepts_cons, ih, norm_equiv _ t]

/-- compiled code runs the simplifying matcher (same function, proved above) -/
@[csimp] theorem accepts_eq_acceptsN : @accepts = @acceptsN := by
  funext r s; exact (acceptsN_eq r s).symm

def ranges : RE → List (Nat × Nat)
  | .cls _ rs => rs
  | .seq a b => ranges a ++ ranges b
  | .alt a b => ranges a ++ ranges b
  | .star a => ranges a
  | _ => []

def inR (c : Nat) (rg : Nat × Nat) : Bool := decide (rg.1 ≤ c) && decide (c ≤ rg.2)

theorem inRanges_congr {c c' : Nat} {rs : List (Nat × Nat)}
    (h : ∀ rg ∈ rs, inR c rg = inR c' rg) : inRanges c rs = inRanges c' rs := by
  induction rs with
  | nil => rfl
  | cons x xs ih =>
    rw [List.forall_mem_cons] at h
    show (inR c x || _) = (inR c' x || _)
    rw [h.1, ih h.2]

theorem deriv_congr {c c' : Nat} (r : RE) (h : ∀ rg ∈ ranges r, inR c rg = inR c' rg) :
    deriv c r = deriv c' r := by
  induction r with
  | cls n rs => simp only [deriv, inRanges_congr (rs := rs) h]
  | seq a b iha ihb | alt a b iha ihb =>
    simp only [ranges, List.forall_mem_append] at h
    simp only [deriv, iha h.1, ihb h.2]
  | star a iha => simp only [deriv, iha h]
  | _ => rfl

/-- cell bounds of the partition of the code points induced by a list of ranges, each listed once
    (the same class occurs many times in a pattern; every bound costs a derivative per state) -/
def bounds : List (Nat × Nat) → List Nat
  | [] => [0]
  | p :: rg => ((bounds rg).insert p.1).insert (p.2 + 1)

theorem mem_bounds_iff {rg : List (Nat × Nat)} {b : Nat} :
    b ∈ bounds rg ↔ (∃ p ∈ rg, b = p.2 + 1 ∨ b = p.1) ∨ b = 0 := by
  induction rg with
  | nil => simp [bounds]
  | cons q rg ih =>
    simp only [bounds, List.mem_insert_iff, ih, List.mem_cons, or_and_right, exists_or, exists_eq_left, or_assoc]

theorem rep_exists (rg : List (Nat × Nat)) (c : Nat) :
    ∃ r ∈ bounds rg, ∀ x ∈ rg, inR c x = inR r x := by
  -- the greatest bound `≤ c`: no bound lies between it and `c`
  have h0 : 0 ∈ (bounds rg).filter (· ≤ c) := List.mem_filter.mpr ⟨mem_bounds_iff.mpr (.inr rfl), by simp⟩
  obtain ⟨r, hr⟩ := Option.isSome_iff_exists.mp (List.isSome_max?_of_mem h0)
  obtain ⟨hmem, hmax⟩ := List.max?_eq_some_iff.mp hr
  simp only [List.mem_filter, decide_eq_true_eq] at hmem hmax
  refine ⟨r, hmem.1, fun x hx => ?_⟩
  have h1 := fun h => hmax x.1 ⟨mem_bounds_iff.mpr (.inl ⟨x, hx, .inr rfl⟩), h⟩
  have h2 := fun h => hmax (x.2 + 1) ⟨mem_bounds_iff.mpr (.inl ⟨x, hx, .inl rfl⟩), h⟩
  apply Bool.eq_iff_iff.mpr
  simp only [inR, Bool.and_eq_true, decide_eq_true_eq]
  omega

def subR (a b : List (Nat × Nat)) : Bool := a.all (fun x => b.contains x)

theorem subR_mem {a b : List (Nat × Nat)} (h : subR a b = true) : ∀ x ∈ a, x ∈ b := by
  intro x hx
  simp only [subR, List.all_eq_true] at h
  simpa using h x hx

/-- `R` is a simulation: closed under (normalised) derivatives by every cell representative, except where the left
    derivative is `nothing` (nothing is left to include; the kernel then never computes the right one),
    and `nullable` is preserved left to right -/
def closedB (rg : List (Nat × Nat)) (R : List (RE × RE)) : Bool :=
  R.all fun p =>
    (!nullable p.1 || nullable p.2) && subR (ranges p.1) rg && subR (ranges p.2) rg &&
    (bounds rg).all fun c => norm (deriv c p.1) == .nothing || R.contains (norm (deriv c p.1), norm (deriv c p.2))

theorem closed_sound {rg : List (Nat × Nat)} {R : List (RE × RE)} (hc : closedB rg R = true) :
    ∀ (s : Str) (a b : RE), (a, b) ∈ R → accepts a s = true → accepts b s = true := by
  simp only [closedB, List.all_eq_true, Bool.and_eq_true, Bool.or_eq_true, Bool.not_eq_true', beq_iff_eq,
    List.contains_iff_mem] at hc
  intro s
  induction s with
  | nil => exact fun a b hab h => (hc (a, b) hab).1.1.1.resolve_left (by simpa using h)
  | cons c t ih =>
    intro a b hab h
    obtain ⟨⟨⟨_, hra⟩, hrb⟩, hstep⟩ := hc (a, b) hab
    -- `c` and the representative `r` of its cell have the same derivatives
    obtain ⟨r, hr, hagree⟩ := rep_exists rg c
    rw [accepts_cons, deriv_congr a fun x hx => hagree x (subR_mem hra x hx), ← norm_equiv] at h
    rw [accepts_cons, deriv_congr b fun x hx => hagree x (subR_mem hrb x hx), ← norm_equiv]
    rcases hstep r hr with hdead | hmem
    · rw [hdead, accepts_nothing] at h; cases h
    · exact ih _ _ hmem h

/-- worklist exploration of the derivative pairs reachable from the work list; gives up at a pair that refutes
    the inclusion (so a failing test is short) and does not follow pairs whose left side is `nothing` -/
def explore (rg : List (Nat × Nat)) : Nat → List (RE × RE) → List (RE × RE) → Option (List (RE × RE))
  | _, [], seen => some seen
  | 0, _ :: _, _ => none
  | fuel + 1, p :: work, seen =>
    if seen.contains p then explore rg fuel work seen
    else if nullable p.1 && !nullable p.2 then none
    else
      let next := ((bounds rg).map fun c => (norm (deriv c p.1), norm (deriv c p.2))).filter fun q => q.1 != .nothing
      explore rg fuel (next ++ work) (p :: seen)

/-- decision attempt for `L(a) ⊆ L(b)`; `true` is a proof (see `inclB_sound`), `false` is not a refutation
    of inclusion only when the fuel ran out.  The fuel bounds the pairs taken off the work list; 4000 is generous:
    each inclusion decided in Props/C15 takes fewer than 100. -/
def inclB (a b : RE) : Bool :=
  let rg := ranges a ++ ranges b
  let p := (norm a, norm b)
  match explore rg 4000 [p] [] with
  | some R => closedB rg R && R.contains p
  | none => false

theorem inclB_sound {a b : RE} (h : inclB a b = true) : ∀ s, accepts a s = true → accepts b s = true := by
  intro s hs
  simp only [inclB] at h
  split at h
  · rw [Bool.and_eq_true, List.contains_iff_mem] at h
    rw [← norm_equiv a] at hs
    rw [← norm_equiv b]
    exact closed_sound h.1 s _ _ h.2 hs
  · cases h

/-- syntactically equal expressions have the same language: what the term equalities `C15.pattern_same_*`
    mean for strings -/
theorem same_language {a b : RE} (h : a = b) : ∀ s, accepts a s = accepts b s := by
  subst h; intro s; rfl

end OdfModel.Regex
