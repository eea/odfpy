/-
  OdfModel.MoinLemmas — the MoinMoin converter on its simplest fragment (property C18): top-level paragraphs and
  headings whose content is inline (text, spans, links and the other `inline_markup` elements, text:s / tab /
  line-break, ignored empty elements, images).  On that fragment the model `Moin.toString` never fails and the visible
  text is a subsequence of the output once white space is dropped on both sides (`str.strip()` and the "no style on
  white space" rule only remove white space): `moin_total_complete_partial`, with `mvis` / `pvisL` as the visible text.
  The statement for the whole block vocabulary is `Props.C18Moin.moin_supported_total_complete_partial`, with a visible
  text of its own; it builds on `inlineMarkup_wraps`, `paraPost_ok` (the markup wraps the text), `nodeStr_markup`,
  `nodeStr_leaf` and `toString_of_topStr` from here, and treats indentation in its document classes, not through the
  `*_elems` lemmas below.
-/
import OdfModel.Moin
namespace OdfModel.Moin
open OdfModel OdfModel.Generated.Xhtml
open OdfModel.Xhtml (Node Attrs Err M pyInt)

/-- drop Python white space -/
def nonWs (s : Str) : Str := s.filter (fun c => !isSpace c)

theorem nonWs_append (a b : Str) : nonWs (a ++ b) = nonWs a ++ nonWs b := by simp [nonWs]

theorem filter_dropWhile (p : Cp → Bool) (l : Str) : (l.dropWhile p).filter (fun c => !p c) = l.filter (fun c => !p c) := by
  induction l with
  | nil => rfl
  | cons c r ih =>
    by_cases h : p c = true
    · simp [List.dropWhile, h, ih]
    · simp [List.dropWhile, h]

theorem nonWs_strip (t : Str) : nonWs (pyStrip t) = nonWs t := by
  unfold nonWs pyStrip
  rw [List.filter_reverse, filter_dropWhile, List.filter_reverse, List.reverse_reverse, filter_dropWhile]

theorem nonWs_of_strip_empty (t : Str) (h : (pyStrip t).isEmpty = true) : nonWs t = [] := by
  have h1 : pyStrip t = [] := by simpa using h
  rw [← nonWs_strip, h1]; rfl

theorem sublist_nonWs {a b : Str} (h : a.Sublist b) : (nonWs a).Sublist (nonWs b) := h.filter _

theorem sublist_wrapped (pre x post : Str) : x.Sublist (pre ++ x ++ post) :=
  (List.sublist_append_right pre x).trans (List.sublist_append_left _ post)

theorem inlineMarkup_wraps (sty : Styles) (a : Attrs) (t : Str) : ∃ pre post, inlineMarkup sty a t = pre ++ t ++ post := by
  unfold inlineMarkup
  by_cases h : (pyStrip t).isEmpty = true
  · rw [if_pos h]; exact ⟨[], [], by simp⟩
  · rw [if_neg h]
    simp only []  -- reduces the `let`s of the definition, here and below
    generalize (sty.text.lookup (getAttr a kStyleName)).getD {} = style
    cases style.fixed
    · exact ⟨_, _, rfl⟩
    · exact ⟨[96], [96], rfl⟩

theorem nonWs_inlineMarkup (sty : Styles) (a : Attrs) (t : Str) : (nonWs t).Sublist (nonWs (inlineMarkup sty a t)) := by
  obtain ⟨pre, post, e⟩ := inlineMarkup_wraps sty a t
  rw [e]; exact sublist_nonWs (sublist_wrapped pre t post)

/-- methods that return a string without looking at the children's text -/
def leafMethod (m : MName) : Bool :=
  m == .text_s || m == .text_tab || m == .text_line_break || m == .do_nothing || m == .draw_image

/-! **tie to the source** (`CONTAINER_TAGS`, regenerated on every run): frames, text boxes and sections are containers;
    lists and notes are not, nor are paragraphs, headings and pages (`para_tag`) -/
theorem isContainer_frame : isContainer tFrame = true := by decide +kernel
theorem isContainer_textBox : isContainer tTextBox = true := by decide +kernel
theorem isContainer_section : isContainer tSection = true := by decide +kernel
theorem isContainer_list : isContainer tList = false := by decide +kernel
theorem isContainer_note : isContainer tNote = false := by decide +kernel

/-- the tags converted by paragraphToString (draw:page only as a child of office:text) are tested for after the
    containers, lists and tables -/
theorem para_tag {q : Str} (h : q = tPage ∨ q = tP ∨ q = tH) :
    q ≠ tNote ∧ isContainer q = false ∧ q ≠ tList ∧ q ≠ tTable := by
  rcases h with rfl | rfl | rfl <;> decide +kernel

/-- not a container (`CONTAINER_TAGS`: frames, text boxes, shapes, sections, numbered paragraphs, indexes) and none of the
    block elements textToString has a case for -/
def notBlock (q : Str) : Prop := isContainer q = false ∧ q ≠ tP ∧ q ≠ tH ∧ q ≠ tList ∧ q ≠ tTable ∧ q ≠ tSection

mutual
/-- inline content: text, elements converted by `inline_markup`, and leaf methods -/
inductive MIn : Node → Prop
  | text (s) : MIn (.text s)
  | markup (q a kids) : notBlock q → moinMethod q = some .inline_markup → MInL kids → MIn (.elem q a kids)
  | leaf (q a kids m) : notBlock q → moinMethod q = some m → leafMethod m = true → MIn (.elem q a kids)
inductive MInL : List Node → Prop
  | nil : MInL []
  | cons (n ns) : MIn n → MInL ns → MInL (n :: ns)
end

mutual
/-- visible text of inline content -/
def mvis : Node → Str
  | .text s => s
  | .elem q _ kids => if moinMethod q == some .inline_markup then mvisL kids else []
def mvisL : List Node → Str
  | [] => []
  | n :: ns => mvis n ++ mvisL ns
end

theorem nodeStr_markup {q : Str} (h : notBlock q) (hm : moinMethod q = some .inline_markup) (sty : Styles) (st : MSt)
    (a : Attrs) (kids : List Node) :
    nodeStr sty st (.elem q a kids) =
      match kidsStr sty st kids with
      | .error e => .error e
      | .ok (t, st1) => .ok (inlineMarkup sty a t, st1) := by
  rw [nodeStr.eq_def]
  simp [h.1, h.2, hm]
  cases kidsStr sty st kids <;> rfl

theorem nodeStr_leaf {q : Str} {m : MName} (h : notBlock q) (hm : moinMethod q = some m) (hl : leafMethod m = true)
    (sty : Styles) (st : MSt) (a : Attrs) (kids : List Node) : ∃ t, nodeStr sty st (.elem q a kids) = .ok (t, st) := by
  rw [nodeStr.eq_def]
  simp only [h.1, h.2, hm]
  cases m <;> first | exact ⟨_, rfl⟩ | cases hl

mutual
theorem nodeStr_inline (sty : Styles) (st : MSt) (n : Node) (h : MIn n) :
    ∃ t, nodeStr sty st n = .ok (t, st) ∧ (nonWs (mvis n)).Sublist (nonWs t) := by
  match h with
  | .text s => exact ⟨s, rfl, .refl _⟩
  | .markup q a kids hb hm hk =>
    obtain ⟨t, ht, hs⟩ := kidsStr_inline sty st kids hk
    refine ⟨inlineMarkup sty a t, ?_, ?_⟩
    · rw [nodeStr_markup hb hm]; simp only [ht]
    · simp only [mvis, hm, beq_self_eq_true, if_true]
      exact hs.trans (nonWs_inlineMarkup sty a t)
  | .leaf q a kids m hb hm hl =>
    have hne : m ≠ .inline_markup := by rintro rfl; cases hl
    have hv : mvis (.elem q a kids) = [] := by simp [mvis, hm, hne]
    obtain ⟨t, ht⟩ := nodeStr_leaf hb hm hl sty st a kids
    rw [hv]; exact ⟨t, ht, List.nil_sublist _⟩
termination_by structural h
theorem kidsStr_inline (sty : Styles) (st : MSt) (l : List Node) (h : MInL l) :
    ∃ t, kidsStr sty st l = .ok (t, st) ∧ (nonWs (mvisL l)).Sublist (nonWs t) := by
  match h with
  | .nil => exact ⟨[], rfl, .refl _⟩
  | .cons n ns hn hns =>
    obtain ⟨t, ht, hs⟩ := nodeStr_inline sty st n hn
    obtain ⟨u, hu, hs2⟩ := kidsStr_inline sty st ns hns
    refine ⟨t ++ u, by simp [kidsStr, ht, hu], ?_⟩
    simp only [mvisL, nonWs_append]
    exact List.Sublist.append hs hs2
termination_by structural h
end

/-- paragraph attributes the model converts without error: no outline level, or a decimal one -/
def ParaOK (a : Attrs) : Prop := getAttr a kOutline = [] ∨ ∃ n, pyInt (getAttr a kOutline) = some n

theorem nonWs_paraText (pp : ParaProps) (q : Str) (st : MSt) (markup : Str) : nonWs (paraText pp q st markup) = nonWs markup := by
  unfold paraText
  have h1 : nonWs (if (!pp.code) = true then pyStrip markup else markup) = nonWs markup := by
    split
    · exact nonWs_strip markup
    · rfl
  simp only []
  split
  · rw [nonWs_append, h1]; rfl
  · exact h1

/-- paragraphToString wraps the paragraph text (`paraText`) in a prefix and a suffix; it fails only on a non-decimal
    outline level -/
theorem paraPost_ok (sty : Styles) (q : Str) (a : Attrs) (markup : Str) (st : MSt) (h : ParaOK a) :
    ∃ r st', paraPost sty q a markup st = .ok (r, st') ∧ st'.foot = st.foot ∧ (nonWs markup).Sublist (nonWs r) := by
  suffices h' : ∃ pre post st', paraPost sty q a markup st =
      .ok (pre ++ paraText ((sty.para.lookup (getAttr a kStyleName)).getD {}) q st markup ++ post, st') ∧ st'.foot = st.foot by
    obtain ⟨pre, post, st', hr, hf⟩ := h'
    refine ⟨_, st', hr, hf, ?_⟩
    rw [← nonWs_paraText ((sty.para.lookup (getAttr a kStyleName)).getD {}) q st markup]
    exact sublist_nonWs (sublist_wrapped pre _ post)
  unfold paraPost
  simp only []
  generalize (sty.para.lookup (getAttr a kStyleName)).getD {} = pp
  generalize paraText pp q st markup = text
  obtain ⟨pre0, post0, hplain⟩ :
      ∃ pre post : Str, (if pp.indented = true then [32, 32] ++ text else text) = pre ++ text ++ post := by
    cases pp.indented
    · exact ⟨[], [], by simp⟩
    · exact ⟨[32, 32], [], by simp⟩
  rw [hplain]
  -- the branches one by one (`split` on this term is slow to check)
  cases pp.title
  case true => exact ⟨sTitleOpen, sTitleClose, _, rfl, rfl⟩
  unfold ParaOK at h
  generalize getAttr a kOutline = ol at h ⊢
  cases ol with
  | nil =>
    cases pp.code
    · exact ⟨pre0, post0, _, rfl, rfl⟩
    · exact ⟨sCodeOpen, sCodeClose, _, rfl, rfl⟩
  | cons c r =>
    obtain ⟨n, hn⟩ := h.resolve_left (List.cons_ne_nil c r)
    rw [hn]
    simp only []
    generalize (if st.hasTitle = true then n + 1 else n) = level
    by_cases hl : level ≥ 1
    · rw [if_pos hl]
      exact ⟨List.replicate level 61 ++ [32], [32] ++ List.replicate level 61 ++ [10], { st with last := some q },
        by simp, rfl⟩
    · rw [if_neg hl]; exact ⟨pre0, post0, _, rfl, rfl⟩

/-- a top-level paragraph or heading with inline content -/
inductive MPara : Node → Prop
  | mk (q a kids) : (q = tP ∨ q = tH) → ParaOK a → MInL kids → MPara (.elem q a kids)

/-- visible text of such a paragraph -/
def pvis : Node → Str
  | .elem _ _ kids => mvisL kids
  | .text _ => []

def pvisL (l : List Node) : Str := l.flatMap pvis

theorem flatten_sublist_intercalate (sep : Str) (l : List Str) : l.flatten.Sublist (List.intercalate sep l) := by
  induction l with
  | nil => simp
  | cons t r ih =>
    cases r with
    | nil => simp [List.intercalate]
    | cons u r' =>
      rw [List.intercalate_cons_cons, List.flatten_cons, List.append_assoc]
      exact List.Sublist.append (List.Sublist.refl t) (ih.trans (List.sublist_append_right _ _))

theorem flatten_push (t : Str) (ts : List Str) : (if t.isEmpty then ts else t :: ts).flatten = t ++ ts.flatten := by
  cases t <;> simp

theorem topStr_paras (sty : Styles) (st : MSt) (l : List Node) (h : ∀ n ∈ l, MPara n) :
    ∃ ts st', topStr sty st l = .ok (ts, st') ∧ (nonWs (pvisL l)).Sublist (nonWs ts.flatten) := by
  induction l generalizing st with
  | nil => exact ⟨[], st, rfl, .refl _⟩
  | cons n ns ih =>
    obtain ⟨q, a, kids, hq, hp, hk⟩ := h n (by simp)
    obtain ⟨t, ht, hs⟩ := kidsStr_inline sty st kids hk
    obtain ⟨r, st1, hr, -, hs1⟩ := paraPost_ok sty q a (inlineMarkup sty a t) st hp
    obtain ⟨ts, st2, h2, hs2⟩ := ih st1 (fun m hm => h m (by simp [hm]))
    obtain ⟨-, hc, hl, htb⟩ := para_tag (.inr hq)
    refine ⟨if r.isEmpty then ts else r :: ts, st2, ?_, ?_⟩
    · simp [topStr, hc, hl, htb, or_assoc.2 (.inr hq), ht, hr, h2]
    · show (nonWs (mvisL kids ++ pvisL ns)).Sublist _
      rw [flatten_push, nonWs_append, nonWs_append]
      exact ((hs.trans (nonWs_inlineMarkup sty a t)).trans hs1).append hs2

/-! ### white space between block-level elements is not content (2b96491: `_elements`) -/

theorem elems_text (s : Str) (l : List Node) : elems (.text s :: l) = elems l := by simp [elems, tagOf]
theorem elems_elem (q : Str) (a : Attrs) (k l : List Node) : elems (.elem q a k :: l) = .elem q a k :: elems l := by
  simp [elems, tagOf]

/-- the loop of `toString` only sees the element children: text nodes between the paragraphs, lists and tables of
    office:text (the indentation of a pretty-printed file) change nothing.  (Here and below: a text child is skipped by the
    loop's own equation, and the tail after an element child only enters through the recursive call.) -/
theorem topStr_elems (sty : Styles) (st : MSt) (l : List Node) : topStr sty st l = topStr sty st (elems l) := by
  induction l generalizing st with
  | nil => rfl
  | cons n ns ih => cases n <;> simp only [elems_text, elems_elem, topStr, ih]

/-- the same for the items of a list … -/
theorem itemsStr_elems (sty : Styles) (o : Bool) (i : Nat) (st : MSt) (l : List Node) :
    itemsStr sty o i st l = itemsStr sty o i st (elems l) := by
  induction l generalizing st with
  | nil => rfl
  | cons n ns ih => cases n <;> simp only [elems_text, elems_elem, itemsStr, ih]

/-- … the children of a list item … -/
theorem subitemsStr_elems (sty : Styles) (i : Nat) (st : MSt) (l : List Node) :
    subitemsStr sty i st l = subitemsStr sty i st (elems l) := by
  induction l generalizing st with
  | nil => rfl
  | cons n ns ih => cases n <;> simp only [elems_text, elems_elem, subitemsStr, ih]

/-- … the children of a table (rows, header rows, columns) … -/
theorem rowsStr_elems (sty : Styles) (st : MSt) (l : List Node) : rowsStr sty st l = rowsStr sty st (elems l) := by
  induction l generalizing st with
  | nil => rfl
  | cons n ns ih =>
    cases n with
    | text s =>
      simp only [elems_text, rowsStr, rowStr, List.nil_append, ih]
      cases rowsStr sty st (elems ns) <;> rfl
    | elem q a k => simp only [elems_elem, rowsStr, ih]

/-- … and the cells of a row -/
theorem cellsStr_elems (sty : Styles) (st : MSt) (l : List Node) : cellsStr sty st l = cellsStr sty st (elems l) := by
  induction l generalizing st with
  | nil => rfl
  | cons n ns ih => cases n <;> simp only [elems_text, elems_elem, cellsStr, ih]

/-- `toString` after its loop: the output carries the buffer entries and then the collected notes -/
theorem toString_of_topStr {stylesDoc contentDoc body textEl : Node} {sty : Styles} {bs more : List Node} {ts : List Str}
    {st' : MSt} (h1 : loadStyles stylesDoc contentDoc = .ok sty) (h2 : byTag contentDoc tBody = body :: bs)
    (h3 : elems (kidsOf body) = textEl :: more) (ht : topStr sty {} (kidsOf textEl) = .ok (ts, st')) :
    ∃ out, toString stylesDoc contentDoc = .ok out ∧
      (ts.flatten ++ (st'.foot.map fun cb => cb.1 ++ [58, 32] ++ cb.2).flatten).Sublist out := by
  simp only [toString, h1, h2, h3, ht, bind, Except.bind, pure, Except.pure]
  refine ⟨_, rfl, .trans ?_ (flatten_sublist_intercalate [10] _)⟩
  cases st'.foot <;> simp

/-- **C18 (MoinMoin: total and complete) — partial**: for a text document whose body consists of paragraphs and headings
    with inline content (text, spans, links, bookmark references and the other `inline_markup` elements, text:s / tab /
    line-break, bookmarks and the other ignored empty elements, images; headings with a decimal outline level), and
    whose styles the model can read (`loadStyles` succeeds) — text nodes BETWEEN these paragraphs (indentation) are
    allowed —, `toString` returns a string and the visible text is a subsequence of it, white space dropped on both
    sides.  Outside this fragment: lists, tables, sections, frames, notes — those are
    `Props.C18Moin.moin_supported_total_complete_partial`. -/
theorem moin_total_complete_partial (stylesDoc contentDoc : Node) (sty : Styles) (body : Node) (bs : List Node)
    (textEl : Node) (more paras : List Node) (h1 : loadStyles stylesDoc contentDoc = .ok sty)
    (h2 : byTag contentDoc tBody = body :: bs) (h3 : elems (kidsOf body) = textEl :: more) (h4 : elems (kidsOf textEl) = paras)
    (h5 : ∀ n ∈ paras, MPara n) :
    ∃ out, toString stylesDoc contentDoc = .ok out ∧ (nonWs (pvisL paras)).Sublist (nonWs out) := by
  obtain ⟨ts, st', ht, hs⟩ := topStr_paras sty {} paras h5
  obtain ⟨out, ho, hsub⟩ := toString_of_topStr h1 h2 h3 (by rw [topStr_elems, h4]; exact ht)
  exact ⟨out, ho, hs.trans (sublist_nonWs ((List.sublist_append_left _ _).trans hsub))⟩

end OdfModel.Moin
