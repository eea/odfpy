/-
  OdfModel.Pkg — model of the package layer of odf/opendocument.py (properties C03, C16, the package side of C05 and C19).

  Modelled, statement by statement (odfpy as of the `fix:` commits b8fd72d, 87ffca7, 31ca861, f4df084, d51bb64, f40c392):

  * `OpenDocument.__zipwrite`        → `save`
        mimetype member (ZIP_STORED, ZipInfo without extra) ; `_saveXmlObjects(self, "")` ;
        `_savePictures(self, "")` ; thumbnail ("Thumbnails/" + "Thumbnails/thumbnail.png") ;
        `_allExtras(self)` (the extras of the document and of every sub-document, each below its folder)
        except META-INF/documentsignatures.xml ; META-INF/manifest.xml last.
  * `OpenDocument._saveXmlObjects`   → `saveXml` / `saveXmlKids`
        manifest "/" (top) or the folder ; styles.xml ; content.xml ; settings.xml iff
        `settings.hasChildNodes()` ; meta.xml for the top only ; every child under
        `child.folder[len(self.folder)+1:] + "/"` (`stor`) — the `folder` attribute is the single truth.
  * `OpenDocument._savePictures`     → `savePics` / `savePicsKids` (same folders)
  * `OpenDocument._allExtras`        → `saveExtras` / `saveExtrasKids`
  * `addPicture` / `addPictureFromFile` / `addPictureFromString` → `register` (a dict store).  The href itself
        ("Pictures/" + uuid4 + extension, or the caller's name) is an input of the model.
  * `addThumbnail`                   → field `thumbnail` (bytes + the `_thumbnail_mediatype` attribute `load` sets)
  * `addObject`                      → `attachIn` / `step` (history model for C16): names in use =
        `f[len(self.folder)+1:]` for the folder `f` of every object below the holder, at any depth
        (`_foldersBelow` → `usedBelow`); default name = first free "Object n" from
        n = len(childobjects)+1; an explicit name loses its leading "/"s; a name in use raises ValueError
        (nothing attached), and so does a document that is already attached or is the parent itself;
        the child is appended and `_setFolder(parent.folder + "/" + name)` moves it
        and everything already attached to it (`setFolder`); returned reference "." + folder.
  * `load`                            → `load`, written as what the loop computes: `manifestlist` (dict); for every
        key the chain of listed "Object <digits>/" folders (`chainPairs`, `chainOf` = `objectpath`); the
        sub-documents in creation order (`allPairs`: a folder is created the first time a key walks
        through it) and `childobjects` (`kidsOf`); per sub-document the entries dispatched to it
        (`entriesAt`) give its `Pictures` (`picsAt`), `_extra` (`extrasAt`: everything that is not a
        picture, the thumbnail, a parsed part, or one of the regenerated entries), the top its thumbnail;
        `buildDoc` assembles the tree; a `z.read` of a missing member makes `load` raise (`needsRead`), except that
        a listed settings.xml without member is skipped (`settingsOf`).  `__detectmimetype` → `detectMimetype`.

  Abstractions: `zipfile` = "append entry (name, method, extra, content)"; member names are taken
  verbatim (true for names without NUL; `ZipFile.write` runs normpath over the name of a picture
  registered by file name — "Pictures/" + uuid + splitext extension, already normal).  The bodies of the
  XML parts are opaque tokens `Content.part kind objectId`; the body of a picture registered by file name
  is the token `Content.file name`.  `time` is ignored.  `str.encode('utf-8')` raises on a lone surrogate
  (no package is produced then); `utf8` is total.  The ghost `id` of a loaded sub-document is 1 + the
  position of its folder entry among the manifest keys.  Attaching the saved document itself below
  another one, or a parent into its own sub-tree, is outside the model.

  The lemmas of the file: `Walk.eq` (the three traversals of `save` are one traversal over `objects`) and, after `load`,
  what its loop computes (`chainEnd_spec`, `chainPairs_spec`, `mem_allPairs`, `picsAt_eq`, `load_some`, `load_tree`,
  `dispatched`).
-/
import OdfModel.Basic
import OdfModel.ListFacts
namespace OdfModel.Pkg

abbrev Bytes := List Nat

/-! ### constants (code points) -/

/-- `mimetype` -/
def sMimetype : Str := [109, 105, 109, 101, 116, 121, 112, 101]
/-- `META-INF/manifest.xml` -/
def sManifestPath : Str := [77, 69, 84, 65, 45, 73, 78, 70, 47, 109, 97, 110, 105, 102, 101, 115, 116, 46, 120, 109, 108]
/-- `META-INF/documentsignatures.xml` -/
def sDocSig : Str := [77, 69, 84, 65, 45, 73, 78, 70, 47, 100, 111, 99, 117, 109, 101, 110, 116, 115, 105, 103, 110, 97, 116, 117, 114, 101, 115, 46, 120, 109, 108]
/-- `styles.xml` -/
def sStyles : Str := [115, 116, 121, 108, 101, 115, 46, 120, 109, 108]
/-- `content.xml` -/
def sContent : Str := [99, 111, 110, 116, 101, 110, 116, 46, 120, 109, 108]
/-- `settings.xml` -/
def sSettings : Str := [115, 101, 116, 116, 105, 110, 103, 115, 46, 120, 109, 108]
/-- `meta.xml` -/
def sMeta : Str := [109, 101, 116, 97, 46, 120, 109, 108]
/-- `text/xml` -/
def sTextXml : Str := [116, 101, 120, 116, 47, 120, 109, 108]
/-- `/` -/
def sSlash : Str := [47]
/-- `Object ` -/
def sObjectSp : Str := [79, 98, 106, 101, 99, 116, 32]
/-- `/Object ` -/
def sSlashObjectSp : Str := [47, 79, 98, 106, 101, 99, 116, 32]
/-- `Pictures/` -/
def sPictures : Str := [80, 105, 99, 116, 117, 114, 101, 115, 47]
/-- `Thumbnails/` -/
def sThumbDir : Str := [84, 104, 117, 109, 98, 110, 97, 105, 108, 115, 47]
/-- `Thumbnails/thumbnail.png` -/
def sThumb : Str := [84, 104, 117, 109, 98, 110, 97, 105, 108, 115, 47, 116, 104, 117, 109, 98, 110, 97, 105, 108, 46, 112, 110, 103]
/-- `application/vnd.oasis.opendocument.text` -/
def sOdt : Str := [97, 112, 112, 108, 105, 99, 97, 116, 105, 111, 110, 47, 118, 110, 100, 46, 111, 97, 115, 105, 115, 46, 111, 112, 101, 110, 100, 111, 99, 117, 109, 101, 110, 116, 46, 116, 101, 120, 116]

/-! ### `"%d" % n` and `str.encode("utf-8")` -/

/-- the digits of `n`, most significant first.  `dec` starts with fuel = value and a round keeps value ≤ fuel
    (`n / 10 ≤ n - 1`), so the fuel is used up only at value 0, where the one digit written is right -/
def decAux : Nat → Nat → Str
  | 0, n => [48 + n % 10]
  | f+1, n => if n < 10 then [48 + n] else decAux f (n / 10) ++ [48 + n % 10]

/-- decimal digits of `n` (`"%d" % n`) -/
def dec (n : Nat) : Str := decAux n n

/-- `"Object %d/" % k` -/
def objPrefix (k : Nat) : Str := sObjectSp ++ dec k ++ sSlash

def utf8c (c : Nat) : Bytes :=
  if c < 0x80 then [c]
  else if c < 0x800 then [0xC0 + c / 64, 0x80 + c % 64]
  else if c < 0x10000 then [0xE0 + c / 4096, 0x80 + c / 64 % 64, 0x80 + c % 64]
  else [0xF0 + c / 262144, 0x80 + c / 4096 % 64, 0x80 + c / 64 % 64, 0x80 + c % 64]

def utf8 (s : Str) : Bytes := s.flatMap utf8c

/-! ### data -/

inductive Method where
  | stored
  | deflated
deriving DecidableEq, Repr

inductive PartKind where
  | styles
  | content
  | settings
  | metadata
deriving DecidableEq, Repr

/-- what the bytes of a zip member are -/
inductive Content where
  | bytes (b : Bytes)                    -- literal bytes
  | file (fname : Str)                   -- the bytes of that file at save time (`ZipFile.write`)
  | part (k : PartKind) (obj : Nat)      -- an XML part of the object with that id (opaque)
  | manifestXml                          -- the serialised manifest (its entry list is `Out.man`)
deriving DecidableEq, Repr

/-- one `writestr` / `write` on the ZipFile -/
structure ZE where
  name : Str
  method : Method
  extra : Bytes
  content : Content
deriving DecidableEq, Repr

/-- one `manifest.FileEntry`.  `isFolder` is a ghost tag set by the model at the four places where the
    code adds an entry without writing a member: the root "/", an object folder, "Thumbnails/" and an
    extra whose content is None. -/
structure ME where
  path : Str
  mediatype : Str
  isFolder : Bool
deriving DecidableEq, Repr

inductive PicSrc where
  | file (fname : Str)      -- IS_FILENAME
  | image (b : Bytes)       -- IS_IMAGE
deriving DecidableEq, Repr

/-- one item of the `Pictures` dict: href ↦ (kind, bytes/filename, mediatype) -/
structure Pic where
  href : Str
  src : PicSrc
  mediatype : Str
deriving DecidableEq, Repr

/-- `OpaqueObject` -/
structure Extra where
  filename : Str
  mediatype : Str
  content : Option Bytes
deriving DecidableEq, Repr

/-- `thumbnail` together with `getattr(self, '_thumbnail_mediatype', u'')` (only `load` sets the latter, and only
    together with the former) -/
structure Thumb where
  content : Bytes
  mediatype : Str
deriving DecidableEq, Repr

/-- `OpenDocument` as far as the package layer reads it.  `id` is a ghost identity (it names the
    document whose XML parts a member holds). -/
structure Doc where
  id : Nat
  mimetype : Str
  hasSettings : Bool          -- `settings.hasChildNodes()`
  pictures : List Pic         -- `Pictures.items()` in insertion order
  thumbnail : Option Thumb
  extras : List Extra         -- `_extra`
  folder : Str                -- the `folder` attribute (written by addObject; `save` reads where to store a child from it)
  children : List Doc         -- `childobjects`
deriving Repr

/-- the two effect lists of a save: `ZipFile` members and manifest entries, each in call order -/
structure Out where
  zip : List ZE
  man : List ME
deriving Repr

def Out.empty : Out := ⟨[], []⟩
def Out.app (a b : Out) : Out := ⟨a.zip ++ b.zip, a.man ++ b.man⟩
instance : Append Out := ⟨Out.app⟩

@[simp] theorem Out.zip_append (a b : Out) : (a ++ b).zip = a.zip ++ b.zip := rfl
@[simp] theorem Out.man_append (a b : Out) : (a ++ b).man = a.man ++ b.man := rfl
@[simp] theorem Out.zip_empty : Out.empty.zip = [] := rfl
@[simp] theorem Out.man_empty : Out.empty.man = [] := rfl

/-- `self._z.writestr(zi, …)` -/
def emZ (e : ZE) : Out := ⟨[e], []⟩
/-- `self.manifest.addElement(manifest.FileEntry(…))` -/
def emM (e : ME) : Out := ⟨[], [e]⟩
/-- a member together with its manifest entry -/
def emFile (name : Str) (m : Method) (c : Content) (mediatype : Str) : Out :=
  emM ⟨name, mediatype, false⟩ ++ emZ ⟨name, m, [], c⟩

@[simp] theorem emZ_zip (e : ZE) : (emZ e).zip = [e] := rfl
@[simp] theorem emZ_man (e : ZE) : (emZ e).man = [] := rfl
@[simp] theorem emM_zip (e : ME) : (emM e).zip = [] := rfl
@[simp] theorem emM_man (e : ME) : (emM e).man = [e] := rfl
@[simp] theorem emFile_zip (n : Str) (m : Method) (c : Content) (t : Str) :
    (emFile n m c t).zip = [⟨n, m, [], c⟩] := rfl
@[simp] theorem emFile_man (n : Str) (m : Method) (c : Content) (t : Str) :
    (emFile n m c t).man = [⟨n, t, false⟩] := rfl

/-! ### the picture registry -/

/-- `self.Pictures[href] = (kind, data, mediatype)` -/
def register (ps : List Pic) (p : Pic) : List Pic :=
  if ps.any (fun q => q.href == p.href) then ps.map (fun q => if q.href == p.href then p else q)
  else ps ++ [p]

/-! ### save -/

def xmlPart (F : Str) (k : PartKind) (name : Str) (id : Nat) : Out :=
  emFile (F ++ name) .deflated (.part k id) sTextXml

/-- `subobject.folder[len(self.folder)+1:] + u'/'` — where `save` stores a sub-document (`L = len(self.folder)`
    of the document being saved) -/
def stor (L : Nat) (c : Doc) : Str := c.folder.drop (L+1) ++ sSlash

mutual
/-- `_saveXmlObjects(anObject, folder)`; `top` is the test `self == anObject` -/
def saveXml (L : Nat) (top : Bool) (F : Str) : Doc → Out
  | ⟨id, mt, hs, _, _, _, _, kids⟩ =>
    emM ⟨if top then sSlash else F, mt, true⟩
    ++ xmlPart F .styles sStyles id
    ++ xmlPart F .content sContent id
    ++ (if hs then xmlPart F .settings sSettings id else Out.empty)
    ++ (if top then emFile sMeta .deflated (.part .metadata id) sTextXml else Out.empty)
    ++ saveXmlKids L kids
/-- the loop over `childobjects` -/
def saveXmlKids (L : Nat) : List Doc → Out
  | [] => Out.empty
  | c :: cs => saveXml L false (stor L c) c ++ saveXmlKids L cs
end

def picContent : PicSrc → Content
  | .file f => .file f
  | .image b => .bytes b

/-- one picture of a document stored in `F` -/
def picOut (F : Str) (p : Pic) : Out := emFile (F ++ p.href) .stored (picContent p.src) p.mediatype

def picsOut (F : Str) : List Pic → Out
  | [] => Out.empty
  | p :: ps => picOut F p ++ picsOut F ps

mutual
/-- `_savePictures(anObject, folder)` -/
def savePics (L : Nat) (F : Str) : Doc → Out
  | ⟨_, _, _, pics, _, _, _, kids⟩ => picsOut F pics ++ savePicsKids L kids
def savePicsKids (L : Nat) : List Doc → Out
  | [] => Out.empty
  | c :: cs => savePics L (stor L c) c ++ savePicsKids L cs
end

def thumbOut : Option Thumb → Out
  | none => Out.empty
  | some t => emM ⟨sThumbDir, [], true⟩ ++ emFile sThumb .deflated (.bytes t.content) t.mediatype

/-- one iteration of the loop over `_allExtras` -/
def extraOut (F : Str) (e : Extra) : Out :=
  if e.filename = sDocSig then Out.empty
  else match e.content with
    | none => emM ⟨F ++ e.filename, e.mediatype, true⟩
    | some b => emFile (F ++ e.filename) .deflated (.bytes b) e.mediatype

def extrasOut (F : Str) : List Extra → Out
  | [] => Out.empty
  | e :: es => extraOut F e ++ extrasOut F es

mutual
/-- `_allExtras(anObject)` followed by the writing loop -/
def saveExtras (L : Nat) (F : Str) : Doc → Out
  | ⟨_, _, _, _, _, ex, _, kids⟩ => extrasOut F ex ++ saveExtrasKids L kids
def saveExtrasKids (L : Nat) : List Doc → Out
  | [] => Out.empty
  | c :: cs => saveExtras L (stor L c) c ++ saveExtrasKids L cs
end

/-- `__zipwrite` -/
def save (d : Doc) : Out :=
  emZ ⟨sMimetype, .stored, [], .bytes (utf8 d.mimetype)⟩
  ++ saveXml d.folder.length true [] d
  ++ savePics d.folder.length [] d
  ++ thumbOut d.thumbnail
  ++ saveExtras d.folder.length [] d
  ++ emZ ⟨sManifestPath, .deflated, [], .manifestXml⟩

/-! ### where each object of the tree is stored -/

mutual
/-- every document of the tree with the folder `save` stores it in: `F` for the document itself, `stor L c`
    for every (direct or indirect) sub-document `c` -/
def objects (L : Nat) (F : Str) : Doc → List (Str × Doc)
  | ⟨id, mt, hs, pics, th, ex, fo, kids⟩ => (F, ⟨id, mt, hs, pics, th, ex, fo, kids⟩) :: objectsK L kids
def objectsK (L : Nat) : List Doc → List (Str × Doc)
  | [] => []
  | c :: cs => objects L (stor L c) c ++ objectsK L cs
end

theorem objects_head (L : Nat) (F : Str) (d : Doc) : objects L F d = (F, d) :: objectsK L d.children := by
  cases d; rfl

theorem objectsK_append (L : Nat) (a b : List Doc) : objectsK L (a ++ b) = objectsK L a ++ objectsK L b := by
  induction a with
  | nil => rfl
  | cons d ds ih => simp [objectsK, ih]

theorem objectsK_snoc (L : Nat) (ds : List Doc) (d : Doc) :
    objectsK L (ds ++ [d]) = objectsK L ds ++ (stor L d, d) :: objectsK L d.children := by
  rw [objectsK_append, objectsK, objectsK, List.append_nil, objects_head]

theorem mem_objectsK_cons {L : Nat} {d : Doc} {ds : List Doc} {q : Str × Doc} :
    q ∈ objectsK L (d :: ds) ↔ q = (stor L d, d) ∨ q ∈ objectsK L d.children ∨ q ∈ objectsK L ds := by
  rw [objectsK, objects_head, List.cons_append, List.mem_cons, List.mem_append]

theorem mem_objectsK_iff {L : Nat} {ds : List Doc} {q : Str × Doc} :
    q ∈ objectsK L ds ↔ ∃ d ∈ ds, q = (stor L d, d) ∨ q ∈ objectsK L d.children := by
  induction ds with
  | nil => simp [objectsK]
  | cons c cs ih => simp only [mem_objectsK_cons, ih, List.mem_cons, exists_eq_or_imp, or_assoc]

theorem mem_objectsK_of_mem {L : Nat} {d : Doc} {ds : List Doc} (h : d ∈ ds) : (stor L d, d) ∈ objectsK L ds :=
  mem_objectsK_iff.mpr ⟨d, h, .inl rfl⟩

theorem forall_objectsK_cons {L : Nat} {d : Doc} {ds : List Doc} {P : Str × Doc → Prop} :
    (∀ q ∈ objectsK L (d :: ds), P q) ↔
      P (stor L d, d) ∧ (∀ q ∈ objectsK L d.children, P q) ∧ ∀ q ∈ objectsK L ds, P q := by
  simp only [mem_objectsK_cons, or_imp, forall_and, forall_eq]

mutual
theorem objects_fst (L : Nat) (F : Str) : ∀ d, ∀ q ∈ objects L F d, q = (F, d) ∨ q.1 = stor L q.2
  | ⟨_, _, _, _, _, _, _, kids⟩, q, hq => by
    rw [objects, List.mem_cons] at hq
    exact hq.imp_right (objectsK_fst L kids q)
theorem objectsK_fst (L : Nat) : ∀ (ds : List Doc), ∀ q ∈ objectsK L ds, q.1 = stor L q.2
  | [], q, hq => by cases hq
  | c :: cs, q, hq => by
    rw [objectsK, List.mem_append] at hq
    rcases hq with hq | hq
    · rcases objects_fst L (stor L c) c q hq with rfl | h
      · rfl
      · exact h
    · exact objectsK_fst L cs q hq
end

/-! ### the three traversals of `save` are one traversal -/

theorem Out.ext {a b : Out} (hz : a.zip = b.zip) (hm : a.man = b.man) : a = b := by
  cases a; cases b; simp_all

theorem Out.append_assoc (a b c : Out) : a ++ b ++ c = a ++ (b ++ c) := Out.ext (by simp) (by simp)
@[simp] theorem Out.empty_append (a : Out) : Out.empty ++ a = a := Out.ext (by simp) (by simp)
@[simp] theorem Out.append_empty (a : Out) : a ++ Out.empty = a := Out.ext (by simp) (by simp)

def Out.concat : List Out → Out
  | [] => Out.empty
  | o :: os => o ++ Out.concat os

theorem Out.concat_append (a b : List Out) : Out.concat (a ++ b) = Out.concat a ++ Out.concat b := by
  induction a with
  | nil => simp [Out.concat]
  | cons o os ih => simp [Out.concat, ih, Out.append_assoc]

theorem Out.concat_ind {α : Type} {P : Out → Prop} (h0 : P Out.empty) (happ : ∀ {a b}, P a → P b → P (a ++ b))
    {g : α → Out} : ∀ {l : List α}, (∀ x ∈ l, P (g x)) → P (Out.concat (l.map g))
  | [], _ => h0
  | x :: _, h => happ (h x List.mem_cons_self) (Out.concat_ind h0 happ fun y hy => h y (List.mem_cons_of_mem _ hy))

/-- every member and every manifest entry of `a` is one of `b` -/
def Out.Sub (a b : Out) : Prop := a.zip ⊆ b.zip ∧ a.man ⊆ b.man

theorem Out.Sub.refl (a : Out) : a.Sub a := ⟨List.Subset.refl _, List.Subset.refl _⟩
theorem Out.Sub.trans {a b c : Out} (h : a.Sub b) (h' : b.Sub c) : a.Sub c :=
  ⟨List.Subset.trans h.1 h'.1, List.Subset.trans h.2 h'.2⟩
theorem Out.Sub.left {a b : Out} (c : Out) (h : a.Sub b) : a.Sub (b ++ c) :=
  ⟨fun _ he => List.mem_append_left _ (h.1 he), fun _ he => List.mem_append_left _ (h.2 he)⟩
theorem Out.Sub.right {a b : Out} (c : Out) (h : a.Sub b) : a.Sub (c ++ b) :=
  ⟨fun _ he => List.mem_append_right _ (h.1 he), fun _ he => List.mem_append_right _ (h.2 he)⟩
theorem Out.sub_concat {α : Type} {g : α → Out} {x : α} : ∀ {l : List α}, x ∈ l → (g x).Sub (Out.concat (l.map g))
  | y :: ys, h => by
    rcases List.mem_cons.mp h with rfl | h
    · exact .left _ (.refl _)
    · exact .right _ (Out.sub_concat h)

/-- the shape `_saveXmlObjects`, `_savePictures` and `_allExtras` share: write `own F d` for the document, then walk
    its sub-documents, each under its `stor` folder -/
structure Walk (L : Nat) (own : Str → Doc → Out) (f : Str → Doc → Out) (fK : List Doc → Out) : Prop where
  doc : ∀ F d, f F d = own F d ++ fK d.children
  nil : fK [] = Out.empty
  cons : ∀ c cs, fK (c :: cs) = f (stor L c) c ++ fK cs

mutual
theorem Walk.eq {L own f fK} (w : Walk L own f fK) (F : Str) :
    ∀ d, f F d = Out.concat ((objects L F d).map fun p => own p.1 p.2)
  | ⟨id, mt, hs, pics, th, ex, fo, kids⟩ => by
    rw [w.doc, w.eqK kids]; rfl
theorem Walk.eqK {L own f fK} (w : Walk L own f fK) :
    ∀ ds, fK ds = Out.concat ((objectsK L ds).map fun p => own p.1 p.2)
  | [] => w.nil
  | c :: cs => by
    rw [w.cons, w.eq _ c, w.eqK cs, objectsK, List.map_append, Out.concat_append]
end

theorem Walk.sub {L own f fK} (w : Walk L own f fK) {F d p} (hp : p ∈ objects L F d) : (own p.1 p.2).Sub (f F d) := by
  rw [w.eq]; exact Out.sub_concat (g := fun p => own p.1 p.2) hp
theorem Walk.subK {L own f fK} (w : Walk L own f fK) {ds p} (hp : p ∈ objectsK L ds) : (own p.1 p.2).Sub (fK ds) := by
  rw [w.eqK]; exact Out.sub_concat (g := fun p => own p.1 p.2) hp

/-- the XML parts `_saveXmlObjects` writes for one document: settings.xml iff `settings.hasChildNodes()`, meta.xml for the
    top only -/
def ownKinds (top hs : Bool) : List PartKind :=
  [.styles, .content] ++ (if hs then [.settings] else []) ++ (if top then [.metadata] else [])

/-- member name of a part of the document stored in `F` (meta.xml under its plain name) -/
def partPath (F : Str) : PartKind → Str
  | .styles => F ++ sStyles
  | .content => F ++ sContent
  | .settings => F ++ sSettings
  | .metadata => sMeta

/-- what `_saveXmlObjects` writes for one document itself -/
def ownXml (top : Bool) (F : Str) (d : Doc) : Out :=
  emM ⟨if top then sSlash else F, d.mimetype, true⟩
  ++ Out.concat ((ownKinds top d.hasSettings).map fun k => emFile (partPath F k) .deflated (.part k d.id) sTextXml)

theorem saveXml_own (L : Nat) (top : Bool) (F : Str) (d : Doc) :
    saveXml L top F d = ownXml top F d ++ saveXmlKids L d.children := by
  obtain ⟨_, _, hs, _, _, _, _, _⟩ := d
  -- both sides unfolded; `concat` over the one-or-no-element list of an `if` is that element or nothing
  simp only [saveXml, ownXml, ownKinds, xmlPart, partPath, List.map_append, Out.concat_append, apply_ite (List.map _),
    apply_ite Out.concat, List.map, Out.concat, Out.append_empty, Out.append_assoc]

theorem walk_saveXml (L : Nat) : Walk L (ownXml false) (saveXml L false) (saveXmlKids L) :=
  ⟨saveXml_own L false, rfl, fun _ _ => rfl⟩
theorem walk_savePics (L : Nat) : Walk L (fun F d => picsOut F d.pictures) (savePics L) (savePicsKids L) :=
  ⟨fun F d => by cases d; rfl, rfl, fun _ _ => rfl⟩
theorem walk_saveExtras (L : Nat) : Walk L (fun F d => extrasOut F d.extras) (saveExtras L) (saveExtrasKids L) :=
  ⟨fun F d => by cases d; rfl, rfl, fun _ _ => rfl⟩

theorem picsOut_eq (F : Str) (ps : List Pic) : picsOut F ps = Out.concat (ps.map (picOut F)) := by
  induction ps with
  | nil => rfl
  | cons p ps ih => simp [picsOut, Out.concat, ih]

theorem extrasOut_eq (F : Str) (es : List Extra) : extrasOut F es = Out.concat (es.map (extraOut F)) := by
  induction es with
  | nil => rfl
  | cons e es ih => simp [extrasOut, Out.concat, ih]

theorem save_sub (d : Doc) :
    (saveXml d.folder.length true [] d).Sub (save d) ∧ (savePics d.folder.length [] d).Sub (save d)
    ∧ (thumbOut d.thumbnail).Sub (save d) ∧ (saveExtras d.folder.length [] d).Sub (save d) := by
  unfold save
  exact ⟨.left _ (.left _ (.left _ (.left _ (.right _ (.refl _))))), .left _ (.left _ (.left _ (.right _ (.refl _)))),
    .left _ (.left _ (.right _ (.refl _))), .left _ (.right _ (.refl _))⟩

/-! ### addObject: attachment histories (C16) -/

mutual
/-- `_setFolder(folder)` -/
def setFolder (folder : Str) : Doc → Doc
  | ⟨id, mt, hs, pics, th, ex, fo, kids⟩ => ⟨id, mt, hs, pics, th, ex, folder, setFolderKids folder fo.length kids⟩
/-- `for c in self.childobjects: c._setFolder(folder + c.folder[len(self.folder):])` -/
def setFolderKids (folder : Str) (oldLen : Nat) : List Doc → List Doc
  | [] => []
  | c :: cs => setFolder (folder ++ c.folder.drop oldLen) c :: setFolderKids folder oldLen cs
end

/-- `while u"Object %d" % n in used: n += 1` (terminates within `len(used)+1` rounds) -/
def freeNum : Nat → Nat → List Str → Nat
  | 0, n, _ => n
  | f+1, n, used => if used.contains (sObjectSp ++ dec n) then freeNum f (n+1) used else n

/-- `objectname.lstrip(u"/")` -/
def lstripSlash (s : Str) : Str := s.dropWhile (· == 47)

/-- `[f[len(self.folder)+1:] for f in self._foldersBelow()]`: the folder, relative to the holder stored in `fo`, of every
    object below the holder at any depth (`_foldersBelow` walks `childobjects` in the order of `objectsK`; only the
    documents `q.2` are read, so the offset `0` given to `objectsK` is arbitrary) -/
def usedBelow (fo : Str) (kids : List Doc) : List Str := (objectsK 0 kids).map (fun q => q.2.folder.drop (fo.length + 1))

/-- the name `addObject` uses: `none` = ValueError -/
def objectName (fo : Str) (kids : List Doc) (name : Option Str) : Option Str :=
  let used := usedBelow fo kids
  let n := match name with
    | none => sObjectSp ++ dec (freeNum (used.length + 1) (kids.length + 1) used)
    | some x => lstripSlash x
  if used.contains n then none else some n

/-- outcome of looking a parent up in a tree and calling `addObject` on it -/
inductive Attach (α : Type) where
  | notFound
  | valueError
  | ok (t : α) (folder : Str)

mutual
/-- `p.addObject(c, name)` where `p` is looked up by id inside the tree -/
def attachIn (p : Nat) (c : Doc) (name : Option Str) : Doc → Attach Doc
  | ⟨id, mt, hs, pics, th, ex, fo, kids⟩ =>
    if id = p then
      match objectName fo kids name with
      | none => .valueError
      | some n =>
        let f := fo ++ sSlash ++ n
        .ok ⟨id, mt, hs, pics, th, ex, fo, kids ++ [setFolder f c]⟩ f
    else match attachInK p c name kids with
      | .ok kids' f => .ok ⟨id, mt, hs, pics, th, ex, fo, kids'⟩ f
      | .valueError => .valueError
      | .notFound => .notFound
def attachInK (p : Nat) (c : Doc) (name : Option Str) : List Doc → Attach (List Doc)
  | [] => .notFound
  | d :: ds => match attachIn p c name d with
    | .ok d' f => .ok (d' :: ds) f
    | .valueError => .valueError
    | .notFound => match attachInK p c name ds with
      | .ok ds' f => .ok (d :: ds') f
      | .valueError => .valueError
      | .notFound => .notFound
end

/-- one call `parent.addObject(child, name)`, the two documents given by their ids -/
structure Op where
  parent : Nat
  child : Nat
  name : Option Str
deriving Repr

/-- the document that is going to be saved (`root`), the documents not yet attached to anything (`pool`; each
    may already have objects of its own), and the references returned so far -/
structure Hist where
  root : Doc
  pool : List Doc
  refs : List (Nat × Str × Str)   -- (child id, child media type, returned reference)
deriving Repr

inductive StepRes where
  | ok (h : Hist)
  | valueError          -- the call raised ValueError; nothing changed
  | unsupported         -- outside the model (child not in the pool: unknown or the root; parent unknown or inside the child)

mutual
def hasId (p : Nat) : Doc → Bool
  | ⟨id, _, _, _, _, _, _, kids⟩ => id == p || hasIdK p kids
def hasIdK (p : Nat) : List Doc → Bool
  | [] => false
  | d :: ds => hasId p d || hasIdK p ds
end

/-- `document.folder != u""`: the document hangs below some other document (of the root's tree or of a pool tree) -/
def attachedSomewhere (h : Hist) (c : Nat) : Bool :=
  hasIdK c h.root.children || h.pool.any (fun d => hasIdK c d.children)

/-- one `addObject` call -/
def step (h : Hist) (op : Op) : StepRes :=
  if op.child == op.parent || attachedSomewhere h op.child then .valueError   -- `document is self` / already attached
  else match h.pool.find? (fun d => d.id == op.child) with
  | none => .unsupported
  | some c =>
    let pool := h.pool.filter (fun d => d.id != op.child)
    match attachIn op.parent c op.name h.root with
    | .ok root' f => .ok ⟨root', pool, h.refs ++ [(c.id, c.mimetype, 46 :: f)]⟩
    | .valueError => .valueError
    | .notFound => match attachInK op.parent c op.name pool with
      | .ok pool' f => .ok ⟨h.root, pool', h.refs ++ [(c.id, c.mimetype, 46 :: f)]⟩
      | .valueError => .valueError
      | .notFound => .unsupported

/-- a whole history; a call that raises ValueError is skipped (the caller catches it) -/
def run (h : Hist) : List Op → Option Hist
  | [] => some h
  | op :: ops => match step h op with
    | .ok h' => run h' ops
    | .valueError => run h ops
    | .unsupported => none

/-- **the decidable hypothesis of `ref_names_folder_partial`**: every parent hangs under the saved document at
    the time it gets a child (references are handed out top-down) -/
def parentsFirst (h : Hist) : List Op → Bool
  | [] => true
  | op :: ops => hasId op.parent h.root && (match step h op with
    | .ok h' => parentsFirst h' ops
    | .valueError => parentsFirst h ops
    | .unsupported => false)

/-- does reference `r` (as returned for the object with id `c` and media type `mt`) name a folder of
    `out` that holds `c`'s content.xml and styles.xml and that the manifest declares with `mt`?
    The folder named by "./X" is "X/". -/
def refResolves (out : Out) (r : Str) (c : Nat) (mt : Str) : Bool :=
  let F := r.drop 2 ++ sSlash
  r.take 2 == [46, 47] &&
  out.zip.any (fun (e : ZE) => e.name == F ++ sContent && e.content == Content.part .content c) &&
  out.zip.any (fun (e : ZE) => e.name == F ++ sStyles && e.content == Content.part .styles c) &&
  out.man.any (fun (e : ME) => e.path == F && e.mediatype == mt)

theorem refResolves_iff {out : Out} {r : Str} {c : Nat} {mt : Str} : refResolves out r c mt = true ↔
    r.take 2 = [46, 47]
    ∧ (∃ e ∈ out.zip, e.name = r.drop 2 ++ sSlash ++ sContent ∧ e.content = .part .content c)
    ∧ (∃ e ∈ out.zip, e.name = r.drop 2 ++ sSlash ++ sStyles ∧ e.content = .part .styles c)
    ∧ ∃ e ∈ out.man, e.path = r.drop 2 ++ sSlash ∧ e.mediatype = mt := by
  simp only [refResolves, Bool.and_eq_true, List.any_eq_true, beq_iff_eq, and_assoc]

/-! ### load -/

/-- a package as `load` reads it -/
structure Package where
  mimetypeFile : Option Str             -- `z.read('mimetype').decode()`, none if that raises
  manifest : List (Str × Str)           -- the file-entry elements (full-path, media-type) in document order
  members : List (Str × Bytes)          -- zip members
  settingsNonEmpty : List Str           -- the settings.xml members whose office:settings has children
deriving Repr

/-- `manifest[p] = {...}` -/
def dictSet (d : List (Str × Str)) (k v : Str) : List (Str × Str) :=
  if d.any (fun e => e.1 == k) then d.map (fun e => if e.1 == k then (k, v) else e) else d ++ [(k, v)]

def manifestlist (raw : List (Str × Str)) : List (Str × Str) :=
  raw.foldl (fun d e => dictSet d e.1 e.2) []

/-- `z.read(name)`: the last member of that name -/
def zread (ms : List (Str × Bytes)) (n : Str) : Option Bytes :=
  (ms.reverse.find? (fun m => m.1 == n)).map (·.2)

/-- `__detectmimetype` -/
def detectMimetype (p : Package) : Str :=
  match p.mimetypeFile with
  | some m => m
  | none => match (manifestlist p.manifest).find? (fun e => e.1 == sSlash) with
    | some e => e.2
    | none => sOdt

/-- `name[:9] == u'Pictures/' and len(name) > 9` -/
def isPicturePath (m : Str) : Bool := m.take 9 == sPictures && m.length > 9
/-- `name in (u'settings.xml', u'content.xml', u'styles.xml', u'')` -/
def isParsedPart (m : Str) : Bool := m == sSettings || m == sContent || m == sStyles || m == []
/-- `mentry in (u'/', u'Thumbnails/', u'mimetype', u'META-INF/manifest.xml')` -/
def isRegenerated (m : Str) : Bool := m == sSlash || m == sThumbDir || m == sMimetype || m == sManifestPath

def isDigit (c : Nat) : Bool := 48 ≤ c && c ≤ 57

/-- `re.match(u"Object [0-9]+/", s)`: the matched text -/
def objComp (s : Str) : Option Str :=
  if s.take 7 == sObjectSp then
    let ds := (s.drop 7).takeWhile isDigit
    if !ds.isEmpty && (s.drop (7 + ds.length)).head? == some 47 then some (sObjectSp ++ ds ++ sSlash) else none
  else none

/-- `settings.hasChildNodes()` of the document stored in `F` after `load`: settings.xml is listed, parsed to something
    non-empty, and its member exists (`__loadxmlparts` passes over a listed part whose `z.read` raises KeyError) -/
def settingsOf (p : Package) (keys : List Str) (F : Str) : Bool :=
  keys.contains (F ++ sSettings) && p.settingsNonEmpty.contains (F ++ sSettings)
  && (zread p.members (F ++ sSettings)).isSome

/-- the `while True:` loop of `load` on the key `op ++ rest`, started at `objectpath = op`: the pairs
    (parent folder, folder) of the listed object folders it walks through.  Every round takes a non-empty component off
    `rest`, so fuel `rest.length` is enough -/
def chainPairs (keys : List Str) : Nat → Str → Str → List (Str × Str)
  | 0, _, _ => []
  | f+1, op, rest => match objComp rest with
    | some c =>
      if keys.contains (op ++ c) then (op, op ++ c) :: chainPairs keys f (op ++ c) (rest.drop c.length) else []
    | none => []

/-- all pairs a key walks through -/
def keyPairs (keys : List Str) (k : Str) : List (Str × Str) := chainPairs keys k.length [] k

/-- `objectpath` after the `while True:` loop on the key `op ++ rest`, started at `objectpath = op` -/
def chainEnd (keys : List Str) : Nat → Str → Str → Str
  | 0, op, _ => op
  | f+1, op, rest => match objComp rest with
    | some c => if keys.contains (op ++ c) then chainEnd keys f (op ++ c) (rest.drop c.length) else op
    | none => op

/-- the folder of the sub-document a key belongs to ("" = the top document) -/
def chainOf (keys : List Str) (k : Str) : Str := chainEnd keys k.length [] k

/-- `if objectpath + m.group(0) not in subdocs:` — a folder is created the first time it is walked through
    (a folder has one parent, so telling pairs apart is telling folders apart) -/
def addPair (acc : List (Str × Str)) (x : Str × Str) : List (Str × Str) :=
  if acc.contains x then acc else acc ++ [x]

/-- the `subdocs` dict without the top document: (parent folder, folder) of every sub-document, in creation order -/
def allPairs (keys : List Str) : List (Str × Str) := (keys.flatMap (keyPairs keys)).foldl addPair []

/-- `childobjects` of the document stored in `P`, as folders, in attach order -/
def kidsOf (keys : List Str) (P : Str) : List Str := ((allPairs keys).filter (fun x => x.1 == P)).map (·.2)

/-- the manifest entries that `load` dispatches to the document stored in `P` -/
def entriesAt (man : List (Str × Str)) (keys : List Str) (P : Str) : List (Str × Str) :=
  man.filter (fun e => chainOf keys e.1 == P)

/-- the last branch of the dispatch: the entry is kept as an opaque extra of its sub-document -/
def isKept (P : Str) (e : Str × Str) : Bool :=
  let name := e.1.drop P.length
  !isPicturePath name && !(e.1 == sThumb) && !(isParsedPart name || e.1 == sMeta) && !isRegenerated e.1

/-- the `OpaqueObject` for a kept entry (directory names carry no content) -/
def toExtra (p : Package) (P : Str) (e : Str × Str) : Extra :=
  let name := e.1.drop P.length
  ⟨name, e.2, if name.getLast? == some 47 then none else zread p.members e.1⟩

/-- does the dispatch of this entry call `z.read(mentry)`? -/
def needsRead (keys : List Str) (e : Str × Str) : Bool :=
  let P := chainOf keys e.1
  let name := e.1.drop P.length
  isPicturePath name || (!isPicturePath name && e.1 == sThumb) || (isKept P e && name.getLast? != some 47)

/-- `Pictures` of the document stored in `P` -/
def picsAt (p : Package) (man : List (Str × Str)) (keys : List Str) (P : Str) : List Pic :=
  (((entriesAt man keys P).filter (fun e => isPicturePath (e.1.drop P.length))).map
    (fun e => (⟨e.1.drop P.length, .image ((zread p.members e.1).getD []), e.2⟩ : Pic))).foldl register []

/-- `_extra` of the document stored in `P` -/
def extrasAt (p : Package) (man : List (Str × Str)) (keys : List Str) (P : Str) : List Extra :=
  ((entriesAt man keys P).filter (isKept P)).map (toExtra p P)

/-- thumbnail + `_thumbnail_mediatype` (top document only) -/
def thumbOf (p : Package) (man : List (Str × Str)) : Option Thumb :=
  (man.find? (fun e => e.1 == sThumb)).map (fun e => ⟨(zread p.members e.1).getD [], e.2⟩)

/-- the `folder` attribute `addObject(subdoc, "/" + name)` leaves on the sub-document stored in `path` -/
def folderOfPath (path : Str) : Str := if path.isEmpty then [] else 47 :: path.dropLast

/-- the document stored in `P` with everything below it (the fuel bounds the nesting depth) -/
def buildDoc (p : Package) (man : List (Str × Str)) (keys : List Str) : Nat → Str → Doc
  | 0, P => ⟨keys.idxOf P + 1, ((man.find? (fun e => e.1 == P)).map (·.2)).getD [], settingsOf p keys P,
             picsAt p man keys P, none, extrasAt p man keys P, folderOfPath P, []⟩
  | f+1, P => ⟨keys.idxOf P + 1, ((man.find? (fun e => e.1 == P)).map (·.2)).getD [], settingsOf p keys P,
             picsAt p man keys P, none, extrasAt p man keys P, folderOfPath P,
             (kidsOf keys P).map (buildDoc p man keys f)⟩

theorem buildDoc_folder (p : Package) (man : List (Str × Str)) (keys : List Str) (f : Nat) (P : Str) :
    (buildDoc p man keys f P).folder = folderOfPath P := by
  cases f <;> rfl

theorem buildDoc_id (p : Package) (man : List (Str × Str)) (keys : List Str) (f : Nat) (P : Str) :
    (buildDoc p man keys f P).id = keys.idxOf P + 1 := by
  cases f <;> rfl

theorem buildDoc_mimetype (p : Package) (man : List (Str × Str)) (keys : List Str) (f : Nat) (P : Str) :
    (buildDoc p man keys f P).mimetype = ((man.find? (fun e => e.1 == P)).map (·.2)).getD [] := by
  cases f <;> rfl

theorem buildDoc_pictures (p : Package) (man : List (Str × Str)) (keys : List Str) (f : Nat) (P : Str) :
    (buildDoc p man keys f P).pictures = picsAt p man keys P := by
  cases f <;> rfl

theorem buildDoc_extras (p : Package) (man : List (Str × Str)) (keys : List Str) (f : Nat) (P : Str) :
    (buildDoc p man keys f P).extras = extrasAt p man keys P := by
  cases f <;> rfl

/-- enough fuel for any nesting that the keys can describe: a chain of folders is walked along one key, one unit per
    folder, so the length of the longest key would do; the sum is simply a bound on that -/
def loadFuel (keys : List Str) : Nat := (keys.map (·.length)).sum + 1

/-- `load`.  The top document gets id 0 and the media type of `__detectmimetype`; `none` = some `z.read`
    raised KeyError -/
def load (p : Package) : Option Doc :=
  let man := manifestlist p.manifest
  let keys := man.map (·.1)
  if man.all (fun e => !needsRead keys e || (zread p.members e.1).isSome) then
    match buildDoc p man keys (loadFuel keys) [] with
    | ⟨_, _, hs, pics, _, ex, fo, kids⟩ => some ⟨0, detectMimetype p, hs, pics, thumbOf p man, ex, fo, kids⟩
  else none

/-! ### what `load` computes

Facts about `load` alone, along the recursion of its own functions: the manifest dict has no key twice; `objComp` finds
the component "Object <digits>/" a name begins with (`objComp_iff`); where the `while True:` loop stops (`chainEnd_spec`)
and which folders it walks through (`chainPairs_spec`, `mem_allPairs`); pictures and extras of a folder (`picsAt_eq`,
`mem_extrasAt`); what `load p = some d` means (`load_some`); and that every folder so found has its document in the tree
(`load_tree`, `dispatched`). -/

/-- a store filled by "overwrite the item with this key, else append" (the assignment `d[k] = v` of a Python dict) never
    holds a key twice.  `ins` with its equation `hins` stands for `dictSet` here (and would for `register`, the same
    assignment on another item type) -/
theorem foldl_upsert_nodup {α κ : Type} [BEq κ] [LawfulBEq κ] (key : α → κ) (ins : List α → α → List α)
    (hins : ∀ l a, ins l a = if l.any (fun q => key q == key a) then l.map (fun q => if key q == key a then a else q)
      else l ++ [a]) :
    ∀ (xs acc : List α), (acc.map key).Nodup → ((xs.foldl ins acc).map key).Nodup
  | [], _, h => h
  | x :: xs, acc, h => by
    refine foldl_upsert_nodup key ins hins xs _ ?_
    rw [hins]
    split
    · -- overwriting keeps the keys
      rw [List.map_map]
      rwa [List.map_congr_left (g := key) fun q _ => by by_cases hq : key q = key x <;> simp [hq]]
    · rename_i hn
      refine nodup_map_snoc h fun hin => hn ?_
      obtain ⟨q, hq, hqx⟩ := List.mem_map.mp hin
      exact List.any_eq_true.mpr ⟨q, hq, beq_iff_eq.mpr hqx⟩

theorem manifestlist_nodup (raw : List (Str × Str)) : ((manifestlist raw).map (·.1)).Nodup :=
  foldl_upsert_nodup (·.1) (fun d e => dictSet d e.1 e.2) (fun _ _ => rfl) raw [] List.nodup_nil

/-- the shape of one folder component: "Object " digits "/" -/
def IsComp (c : Str) : Prop := ∃ ds, c = sObjectSp ++ ds ++ sSlash ∧ ds ≠ [] ∧ ∀ x ∈ ds, isDigit x = true

/-- `re.match(u"Object [0-9]+/", s)` finds exactly the component that `s` begins with -/
theorem objComp_iff {s c : Str} : objComp s = some c ↔ IsComp c ∧ c <+: s := by
  simp only [objComp, Option.ite_none_right_eq_some, Option.some.injEq, Bool.and_eq_true, Bool.not_eq_true',
    beq_iff_eq, List.isEmpty_eq_false_iff]
  constructor
  · rintro ⟨h7, ⟨hne, hhd⟩, rfl⟩
    obtain ⟨t, ht⟩ := List.head?_eq_some_iff.mp hhd
    refine ⟨⟨_, rfl, hne, List.all_eq_true.mp List.all_takeWhile⟩, t, ?_⟩
    -- `s` is its first 7 characters, "Object " (`h7`), then the digits, then what is left behind them, "/" :: t (`ht`)
    rw [← List.drop_drop] at ht
    have hcut : (s.drop 7).takeWhile isDigit ++ (s.drop 7).drop ((s.drop 7).takeWhile isDigit).length = s.drop 7 := by
      conv => lhs; arg 1; rw [List.prefix_iff_eq_take.mp (List.takeWhile_prefix isDigit)]
      exact List.take_append_drop _ _
    calc sObjectSp ++ (s.drop 7).takeWhile isDigit ++ sSlash ++ t
        = s.take 7 ++ ((s.drop 7).takeWhile isDigit ++ 47 :: t) := by rw [h7]; simp [sSlash]
      _ = s.take 7 ++ s.drop 7 := by rw [← ht, hcut]
      _ = s := List.take_append_drop 7 s
  · rintro ⟨⟨ds, rfl, hne, hd⟩, t, rfl⟩
    have e1 : sObjectSp ++ ds ++ sSlash ++ t = sObjectSp ++ (ds ++ 47 :: t) := by simp [sSlash]
    have e3 : (sObjectSp ++ (ds ++ 47 :: t)).drop 7 = ds ++ 47 :: t := List.drop_left' rfl
    have e5 : (ds ++ 47 :: t).takeWhile isDigit = ds := by rw [List.takeWhile_append_of_pos hd]; exact List.append_nil ds
    rw [e1, ← List.drop_drop, e3, e5, List.drop_left]
    exact ⟨List.take_left' rfl, ⟨hne, rfl⟩, by simp [sSlash]⟩

/-- a component is not empty, ends in "/", and is a non-empty name without "/" followed by "/" -/
theorem isComp_facts {c : Str} (h : IsComp c) :
    c ≠ [] ∧ c.getLast? = some 47 ∧ ∃ k, c = k ++ sSlash ∧ 47 ∉ k ∧ k ≠ [] := by
  obtain ⟨ds, rfl, hne, hd⟩ := h
  refine ⟨by simp [sSlash], by simp [sSlash, List.getLast?_append], sObjectSp ++ ds, rfl, fun hin => ?_, by simp [sObjectSp]⟩
  rcases List.mem_append.mp hin with hin | hin
  · revert hin; decide
  · exact absurd (hd 47 hin) (by decide)

theorem folderOfPath_slash (X : Str) : folderOfPath (X ++ sSlash) = 47 :: X := by
  simp [folderOfPath, sSlash]

/-- where the loop stops: `op ++ rest` is the folder reached plus a remainder whose leading component, if it has one,
    does not lead to a listed folder.  `h`: the fuel lasts, every round takes a non-empty component off `rest` -/
theorem chainEnd_spec (keys : List Str) (f : Nat) (op rest : Str) (h : rest.length ≤ f) :
    ∃ rest', op ++ rest = chainEnd keys f op rest ++ rest' ∧
      ∀ c, objComp rest' = some c → chainEnd keys f op rest ++ c ∉ keys := by
  fun_induction chainEnd keys f op rest with
  | case1 op rest =>
    rw [List.eq_nil_of_length_eq_zero (Nat.le_zero.mp h)]
    exact ⟨[], rfl, fun c hc => by cases hc⟩
  | case2 f op rest c ho hk ih =>
    obtain ⟨hcomp, t, rfl⟩ := objComp_iff.mp ho
    have hcl : c.length ≠ 0 := fun h0 => (isComp_facts hcomp).1 (List.eq_nil_of_length_eq_zero h0)
    rw [List.drop_left] at ih ⊢
    obtain ⟨r', e1, e2⟩ := ih (by rw [List.length_append] at h; omega)
    exact ⟨r', by rw [← e1, List.append_assoc], e2⟩
  | case3 f op rest c ho hk =>
    exact ⟨rest, rfl, fun c' hc' => by rw [ho] at hc'; cases hc'; exact fun hin => hk (List.contains_iff_mem.mpr hin)⟩
  | case4 f op rest ho => exact ⟨rest, rfl, fun c hc => by rw [ho] at hc; cases hc⟩

theorem chainOf_spec (keys : List Str) (k : Str) :
    k = chainOf keys k ++ k.drop (chainOf keys k).length ∧
    ∀ c, objComp (k.drop (chainOf keys k).length) = some c → chainOf keys k ++ c ∉ keys := by
  obtain ⟨r', e1, e2⟩ := chainEnd_spec keys k.length [] k (Nat.le_refl _)
  rw [chainOf]
  generalize chainEnd keys k.length [] k = P at e1 e2 ⊢
  rw [List.nil_append] at e1
  subst e1
  rw [List.drop_left]
  exact ⟨rfl, e2⟩

theorem chainOf_top (keys : List Str) (k : Str) (h : (k.take 7 == sObjectSp) = false) : chainOf keys k = [] := by
  unfold chainOf
  cases k.length with
  | zero => rfl
  | succ n =>
    have : objComp k = none := by unfold objComp; simp [h]
    simp [chainEnd, this]

/-- every pair the loop walks through is (folder, folder ++ one component), the second a listed key -/
theorem chainPairs_spec (keys : List Str) (f : Nat) (op rest : Str) :
    ∀ x ∈ chainPairs keys f op rest, ∃ c, IsComp c ∧ x.2 = x.1 ++ c ∧ x.2 ∈ keys := by
  fun_induction chainPairs keys f op rest with
  | case2 f op rest c ho hk ih =>
    exact List.forall_mem_cons.mpr ⟨⟨c, (objComp_iff.mp ho).1, rfl, List.contains_iff_mem.mp hk⟩, ih⟩
  | case1 | case3 | case4 => intro x hx; cases hx

/-- the folder the loop ends in is the one it started from or the last it walked through -/
theorem chainEnd_in_pairs (keys : List Str) (f : Nat) (op rest : Str) :
    chainEnd keys f op rest = op ∨ ∃ P', (P', chainEnd keys f op rest) ∈ chainPairs keys f op rest := by
  fun_induction chainPairs keys f op rest
  case case2 f op rest c ho hk ih =>
    simp only [chainEnd, ho, hk, if_true]
    right
    rcases ih with h | ⟨P', h⟩
    · exact ⟨op, by rw [h]; exact List.mem_cons_self⟩
    · exact ⟨P', List.mem_cons_of_mem _ h⟩
  -- where the loop stops, `chainEnd` is the folder it started from
  all_goals exact Or.inl (by simp only [chainEnd, *, Bool.false_eq_true, if_false])

theorem mem_addPair (acc : List (Str × Str)) (x y : Str × Str) : y ∈ addPair acc x ↔ y ∈ acc ∨ y = x := by
  unfold addPair
  split
  · rename_i hc
    exact ⟨Or.inl, fun h => h.elim id fun e => e ▸ List.contains_iff_mem.mp hc⟩
  · rw [List.mem_append, List.mem_singleton]

theorem foldl_addPair_mem : ∀ (L acc : List (Str × Str)) (x : Str × Str),
    x ∈ L.foldl addPair acc ↔ x ∈ acc ∨ x ∈ L
  | [], acc, x => by simp
  | y :: ys, acc, x => by rw [List.foldl_cons, foldl_addPair_mem ys, mem_addPair, List.mem_cons, or_assoc]

theorem foldl_addPair_nodup : ∀ (L acc : List (Str × Str)), acc.Nodup → (L.foldl addPair acc).Nodup
  | [], _, h => h
  | x :: xs, acc, h => by
    refine foldl_addPair_nodup xs _ ?_
    unfold addPair
    split
    · exact h
    · rename_i hn
      exact nodup_concat h fun hin => hn (List.contains_iff_mem.mpr hin)

theorem mem_allPairs {keys : List Str} {x : Str × Str} :
    x ∈ allPairs keys ↔ ∃ k ∈ keys, x ∈ chainPairs keys k.length [] k := by
  simp only [allPairs, foldl_addPair_mem, List.not_mem_nil, false_or, List.mem_flatMap, keyPairs]

theorem allPairs_spec (keys : List Str) : ∀ x ∈ allPairs keys, ∃ c, IsComp c ∧ x.2 = x.1 ++ c ∧ x.2 ∈ keys := by
  intro x hx
  obtain ⟨k, _, hk⟩ := mem_allPairs.mp hx
  exact chainPairs_spec keys k.length [] k x hk

theorem allPairs_slash (keys : List Str) (x : Str × Str) (hx : x ∈ allPairs keys) : ∃ Q', x.2 = Q' ++ sSlash := by
  obtain ⟨c, ⟨ds, rfl, _⟩, e, _⟩ := allPairs_spec keys x hx
  exact ⟨x.1 ++ sObjectSp ++ ds, by rw [e, List.append_assoc, List.append_assoc, List.append_assoc]⟩

theorem chainOf_known (keys : List Str) (k : Str) (hk : k ∈ keys) :
    chainOf keys k = [] ∨ ∃ P', (P', chainOf keys k) ∈ allPairs keys :=
  (chainEnd_in_pairs keys k.length [] k).imp_right fun ⟨P', h⟩ => ⟨P', mem_allPairs.mpr ⟨k, hk, h⟩⟩

theorem mem_kidsOf {keys : List Str} {P Q : Str} : Q ∈ kidsOf keys P ↔ (P, Q) ∈ allPairs keys := by
  simp only [kidsOf, List.mem_map, List.mem_filter, beq_iff_eq]
  exact ⟨fun ⟨_, ⟨hx, h1⟩, h2⟩ => h1 ▸ h2 ▸ hx, fun h => ⟨(P, Q), ⟨h, rfl⟩, rfl⟩⟩

theorem kidsOf_spec {keys : List Str} {P Q : Str} (h : Q ∈ kidsOf keys P) : ∃ c, IsComp c ∧ Q = P ++ c ∧ Q ∈ keys :=
  allPairs_spec keys (P, Q) (mem_kidsOf.mp h)

theorem kidsOf_nodup (keys : List Str) (P : Str) : (kidsOf keys P).Nodup := by
  have hn : ((allPairs keys).filter (fun x => x.1 == P)).Nodup :=
    (foldl_addPair_nodup _ [] List.nodup_nil).sublist List.filter_sublist
  refine nodup_map_on (fun a ha b hb hab => ?_) hn
  rw [List.mem_filter, beq_iff_eq] at ha hb
  exact Prod.ext (ha.2.trans hb.2.symm) hab

theorem foldl_register_of_nodup : ∀ (l acc : List Pic), ((acc ++ l).map (·.href)).Nodup →
    l.foldl register acc = acc ++ l
  | [], acc, _ => (List.append_nil acc).symm
  | x :: xs, acc, h => by
    have hx : ¬ acc.any (fun q => q.href == x.href) = true := by
      rw [List.any_eq_true]
      rintro ⟨q, hq, hqx⟩
      rw [List.map_append, List.nodup_append] at h
      exact h.2.2 _ (List.mem_map_of_mem hq) _ (List.mem_map_of_mem List.mem_cons_self) (beq_iff_eq.mp hqx)
    rw [List.foldl_cons, register, if_neg hx, foldl_register_of_nodup xs _ (by rwa [List.append_assoc]), List.append_assoc]
    rfl

theorem mem_entriesAt {man : List (Str × Str)} {keys : List Str} {P : Str} {e : Str × Str} :
    e ∈ entriesAt man keys P ↔ e ∈ man ∧ chainOf keys e.1 = P := by
  simp [entriesAt]

theorem entry_key {man : List (Str × Str)} {keys : List Str} {P : Str} {e : Str × Str}
    (he : e ∈ entriesAt man keys P) : e.1 = P ++ e.1.drop P.length :=
  (mem_entriesAt.mp he).2 ▸ (chainOf_spec keys e.1).1

/-- the name of an entry dispatched to `P` does not lead into a listed object folder of `P` (the loop stopped there) -/
theorem entry_stops {man : List (Str × Str)} {keys : List Str} {P : Str} {e : Str × Str} (he : e ∈ entriesAt man keys P)
    {c : Str} (hc : IsComp c) (hpre : c <+: e.1.drop P.length) : P ++ c ∉ keys := by
  obtain ⟨_, rfl⟩ := mem_entriesAt.mp he
  exact (chainOf_spec keys e.1).2 c (objComp_iff.mpr ⟨hc, hpre⟩)

theorem entriesAt_names_nodup (man : List (Str × Str)) (keys : List Str) (P : Str) (hnd : (man.map (·.1)).Nodup)
    (q : Str × Str → Bool) : (((entriesAt man keys P).filter q).map (fun e => e.1.drop P.length)).Nodup := by
  refine nodup_map_of_nodup_map _ (·.1) _ (hnd.sublist ((List.filter_sublist.trans List.filter_sublist).map _))
    fun a ha b hb hab => ?_
  rw [entry_key (List.mem_filter.mp ha).1, entry_key (List.mem_filter.mp hb).1, hab]

/-- the keys of the manifest dict are distinct, so no href is registered twice and the registry is the plain list -/
theorem picsAt_eq {p : Package} {man : List (Str × Str)} {keys : List Str} {P : Str} (hnd : (man.map (·.1)).Nodup) :
    picsAt p man keys P = ((entriesAt man keys P).filter (fun e => isPicturePath (e.1.drop P.length))).map
      (fun e => ⟨e.1.drop P.length, .image ((zread p.members e.1).getD []), e.2⟩) := by
  rw [picsAt, foldl_register_of_nodup _ [], List.nil_append]
  rw [List.nil_append, List.map_map]
  exact entriesAt_names_nodup man keys P hnd _

theorem mem_extrasAt {p : Package} {man : List (Str × Str)} {keys : List Str} {P : Str} {x : Extra} :
    x ∈ extrasAt p man keys P ↔ ∃ e ∈ entriesAt man keys P, isKept P e = true ∧ x = toExtra p P e := by
  simp only [extrasAt, List.mem_map, List.mem_filter]
  exact ⟨fun ⟨e, ⟨he, hk⟩, h⟩ => ⟨e, he, hk, h.symm⟩, fun ⟨e, he, hk, h⟩ => ⟨e, ⟨he, hk⟩, h.symm⟩⟩

/-- what `load p = some d` says: every `z.read` the dispatch needs succeeded, and `d` is the tree built for the top folder ""
    with the id, media type and thumbnail of the top document put in -/
theorem load_some (p : Package) (d : Doc) (hl : load p = some d) :
    (∀ e ∈ manifestlist p.manifest, needsRead ((manifestlist p.manifest).map (·.1)) e = true →
      (zread p.members e.1).isSome = true) ∧
    d = { buildDoc p (manifestlist p.manifest) ((manifestlist p.manifest).map (·.1))
            (loadFuel ((manifestlist p.manifest).map (·.1))) [] with
          id := 0, mimetype := detectMimetype p, thumbnail := thumbOf p (manifestlist p.manifest) } := by
  simp only [load, Option.ite_none_right_eq_some, List.all_eq_true] at hl
  refine ⟨fun e he hr => by simpa [hr] using hl.1 e he, ?_⟩
  generalize buildDoc p _ _ _ [] = b at hl ⊢
  cases b
  exact (Option.some.inj hl.2).symm

mutual
/-- the sub-documents of a sub-document are sub-documents -/
theorem objectsK_trans (L : Nat) : ∀ (ds : List Doc), ∀ q ∈ objectsK L ds, ∀ r ∈ objectsK L q.2.children, r ∈ objectsK L ds
  | [], _, hq, _, _ => nomatch hq
  | c :: cs, q, hq, r, hr => by
    rcases mem_objectsK_cons.mp hq with rfl | hq | hq
    · exact mem_objectsK_cons.mpr (.inr (.inl hr))
    · exact mem_objectsK_cons.mpr (.inr (.inl (objectsK_trans_doc L c q hq r hr)))
    · exact mem_objectsK_cons.mpr (.inr (.inr (objectsK_trans L cs q hq r hr)))
/-- `objectsK_trans` below one document: the step structural recursion over `Doc` / `List Doc` has to take through `Doc` -/
theorem objectsK_trans_doc (L : Nat) :
    ∀ (d : Doc), ∀ q ∈ objectsK L d.children, ∀ r ∈ objectsK L q.2.children, r ∈ objectsK L d.children
  | ⟨_, _, _, _, _, _, _, kids⟩ => objectsK_trans L kids
end

theorem kid_built (p : Package) (man : List (Str × Str)) (keys : List Str) (m : Nat) (x : Str × Str)
    (hx : x ∈ allPairs keys) :
    (x.2, buildDoc p man keys m x.2) ∈ objectsK 0 (buildDoc p man keys (m + 1) x.1).children := by
  obtain ⟨Q', hQ'⟩ := allPairs_slash keys x hx
  have hkid := mem_objectsK_of_mem (L := 0)
    (List.mem_map_of_mem (f := buildDoc p man keys m) (mem_kidsOf.mpr hx))
  rw [hQ'] at hkid ⊢
  rwa [stor, buildDoc_folder, folderOfPath_slash] at hkid

/-- walking down a chain of listed object folders from `op`: every folder of the chain has its document below the document
    built for `op` with fuel `m`.  `f ≤ m`: `buildDoc` spends one unit of its fuel per level and the loop one unit of `f` per
    folder, so a tree built with at least the loop's fuel is deep enough for every folder of the chain -/
theorem chain_reach (p : Package) (man : List (Str × Str)) (keys : List Str) (f : Nat) (op rest : Str) :
    ∀ m, f ≤ m → (∀ x ∈ chainPairs keys f op rest, x ∈ allPairs keys) →
      ∀ x ∈ chainPairs keys f op rest,
        ∃ m', (x.2, buildDoc p man keys m' x.2) ∈ objectsK 0 (buildDoc p man keys m op).children := by
  fun_induction chainPairs keys f op rest
  case case2 f op rest c ho hk ih =>
    intro m hm hall x hx
    obtain ⟨m', rfl⟩ : ∃ m', m = m' + 1 := ⟨m - 1, by omega⟩
    have hkid := kid_built p man keys m' _ (hall _ List.mem_cons_self)
    rcases List.mem_cons.mp hx with rfl | hx
    · exact ⟨m', hkid⟩
    · obtain ⟨m'', h⟩ := ih m' (by omega) (fun y hy => hall y (List.mem_cons_of_mem _ hy)) x hx
      exact ⟨m'', objectsK_trans 0 _ _ hkid _ h⟩
  -- where the loop stops it has walked through no folder
  all_goals exact fun _ _ _ _ hx => nomatch hx

/-- the tree `load` builds: the root holds the pictures and extras dispatched to the top folder "", and every folder `load`
    recognises as a sub-document has its document in the tree, stored — by `save` — under that very folder -/
theorem load_tree (p : Package) (d : Doc) (hl : load p = some d) (man : List (Str × Str)) (keys : List Str)
    (hman : man = manifestlist p.manifest) (hkeys : keys = man.map (·.1)) :
    d.folder = [] ∧ d.pictures = picsAt p man keys [] ∧ d.extras = extrasAt p man keys []
    ∧ ∀ x ∈ allPairs keys, ∃ m, (x.2, buildDoc p man keys m x.2) ∈ objectsK 0 d.children := by
  subst hman hkeys
  obtain ⟨_, rfl⟩ := load_some p d hl
  refine ⟨buildDoc_folder _ _ _ _ _, buildDoc_pictures _ _ _ _ _, buildDoc_extras _ _ _ _ _, fun x hx => ?_⟩
  obtain ⟨k, hk, hxk⟩ := mem_allPairs.mp hx
  dsimp only  -- `⟨…⟩.children` first: the unifier would unfold `buildDoc` instead
  refine chain_reach p _ _ k.length [] k (loadFuel _) ?_ (fun y hy => mem_allPairs.mpr ⟨k, hk, hy⟩) x hxk
  -- the fuel is more than the length of any key
  obtain ⟨a, c, e⟩ := List.append_of_mem hk
  rw [loadFuel, e, List.map_append, List.map_cons, List.sum_append, List.sum_cons]
  omega

/-- every entry of the manifest belongs to a document of the loaded tree: the one `save` stores in the folder `P` that the
    chain of object folders assigns the entry to; it holds the pictures and extras `load` dispatched to `P` -/
theorem dispatched (p : Package) (d : Doc) (hl : load p = some d) (man : List (Str × Str)) (keys : List Str)
    (hman : man = manifestlist p.manifest) (hkeys : keys = man.map (·.1)) (e : Str × Str) (he : e ∈ man)
    (P : Str) (hP : chainOf keys e.1 = P) :
    e ∈ entriesAt man keys P ∧
    ∃ o, (P, o) ∈ objects d.folder.length [] d ∧ o.pictures = picsAt p man keys P ∧ o.extras = extrasAt p man keys P := by
  have hent := mem_entriesAt.mpr ⟨he, hP⟩
  obtain ⟨hfo, hpics, hex, hsub⟩ := load_tree p d hl man keys hman hkeys
  refine ⟨hent, ?_⟩
  rw [hfo, objects_head]
  rcases hP ▸ chainOf_known keys e.1 (hkeys ▸ List.mem_map_of_mem he) with rfl | ⟨P', hP'⟩
  · exact ⟨d, List.mem_cons_self, hpics, hex⟩
  · obtain ⟨m, hm⟩ := hsub _ hP'
    exact ⟨_, List.mem_cons_of_mem _ hm, buildDoc_pictures _ _ _ _ _, buildDoc_extras _ _ _ _ _⟩

/-- a sub-document built by `load` never has the id 0 (its id is 1 + the position of its folder key) -/
theorem buildDoc_ids (p : Package) (man : List (Str × Str)) (keys : List Str) (L : Nat) :
    ∀ (f : Nat) (P : Str), ∀ q ∈ objectsK L (buildDoc p man keys f P).children, q.2.id ≠ 0
  | 0, _, _, hq => nomatch hq
  | f+1, _, q, hq => by
    obtain ⟨d, hd, h⟩ := mem_objectsK_iff.mp hq
    obtain ⟨Q, _, rfl⟩ := List.mem_map.mp hd
    rcases h with rfl | h
    · rw [buildDoc_id]; exact Nat.succ_ne_zero _
    · exact buildDoc_ids p man keys L f Q q h

theorem load_ids (p : Package) (d : Doc) (hl : load p = some d) (L : Nat) :
    d.id = 0 ∧ ∀ q ∈ objectsK L d.children, q.2.id ≠ 0 := by
  obtain ⟨_, rfl⟩ := load_some p d hl
  exact ⟨rfl, buildDoc_ids p _ _ L _ []⟩

end OdfModel.Pkg
